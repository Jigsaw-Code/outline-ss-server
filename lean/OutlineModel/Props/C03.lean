import OutlineModel.Proofs.TieMisc
import OutlineModel.Proofs.UDP
import OutlineModel.Gen.Consts
import OutlineModel.Gen.Ciphers
import OutlineModel.Gen.Wiring
/-
C03 — Every forwarded UDP datagram is authenticated, attributed and intact.

Model: Model/UDP.lean (`upstream` = one client datagram through packetHandler.Handle,
`relayReply`/`downstream` = one target datagram through timedCopy), tied to service/udp.go by the
`udp` correspondence campaign (real handler, real sockets, spec-level cryptography in the harness).
Cryptography is a contract: `opens` is the set of key references under which the datagram
authenticates, `plain` the plaintext it then yields; `shadowsocks.Pack(key, plaintext)` produces
`salt ‖ seal(key, plaintext)` with a salt drawn from the RNG on every call (SDK contract).
-/
namespace OutlineModel.Props.C03
open OutlineModel OutlineModel.UDP OutlineModel.CipherList OutlineModel.Socks

variable (dnsPort : Nat) (ki : KeyInfo) (validate : List UInt8 → IP.Verdict) (resolve : Target → Resolved)

/-- A datagram is written to a target only if it authenticates — for a new client address under the key
    of some configured entry, for a known client address under the key that opened the association, and
    then from the association's own socket — and what is written is exactly the plaintext after its
    address header, to an address that passed the validator. -/
theorem forward_implies_auth (st : State) (client : String) (cip : Option Nat) (wire : Nat) (opens : List Nat)
    (plain : List UInt8) (sock : Nat) (ip : List UInt8) (port : Nat) (payload : List UInt8)
    (h : Eff.send sock ip port payload ∈ (upstream dnsPort ki validate resolve st client cip wire opens plain).2) :
    ((lookupNat st.nat client = none ∧ ∃ e ∈ st.list, opens.contains e.key = true) ∨
     (∃ a, lookupNat st.nat client = some a ∧ opens.contains a.key = true ∧ sock = a.sock)) ∧
    (∃ n, splitAddrLen plain = some n ∧ payload = plain.drop n) ∧ validate ip = .ok := by
  rcases upstream_cases validate resolve dnsPort ki st client cip wire opens plain with
    ⟨_, _, hr⟩ | ⟨_, _, _, _, hr⟩ | ⟨hn, _, e, _, _, _, he, ho, hv, hr⟩ | ⟨a, hn, ho, _, _, _, hv, hr⟩ | ⟨_, _, _, _, _, _, hr⟩ | ⟨_, _, _, hr⟩ <;>
    rw [hr] at h <;> simp at h
  -- only the two forwarding rows (association created, known client forwarded) have a `send` among their effects
  all_goals obtain ⟨rfl, rfl, rfl, rfl⟩ := h
  · exact ⟨.inl ⟨hn, e, he, ho⟩, validatePacket_ok validate resolve hv⟩
  · exact ⟨.inr ⟨a, hn, ho, rfl⟩, validatePacket_ok validate resolve hv⟩

/-- A datagram from a new client address that authenticates under the key of
    ANY configured entry — whatever the list order, cipher mix, most-recently-used state or client
    IP — is recognised (the key search reports success). -/
theorem udp_find_complete (st : State) (client : String) (cip : Option Nat) (wire : Nat) (opens : List Nat)
    (plain : List UInt8) (hn : lookupNat st.nat client = none) (e : Entry) (he : e ∈ st.list)
    (ho : opens.contains e.key = true) :
    Eff.search true ∈ (upstream dnsPort ki validate resolve st client cip wire opens plain).2 := by
  rcases upstream_cases validate resolve dnsPort ki st client cip wire opens plain with
    ⟨_, hno, _⟩ | ⟨_, _, _, _, hr⟩ | ⟨_, _, _, _, _, _, _, _, _, hr⟩ | ⟨_, hn', _⟩ | ⟨_, hn', _⟩ | ⟨_, hn', _⟩
  · rw [hno e he] at ho; cases ho
  · rw [hr]; simp
  · rw [hr]; simp
  all_goals rw [hn] at hn'; cases hn'

/-- A datagram from a new client address that authenticates under no configured
    key causes nothing but the failed-search report: no association, no outbound datagram, no socket. -/
theorem no_key_no_effects (st : State) (client : String) (cip : Option Nat) (wire : Nat) (opens : List Nat)
    (plain : List UInt8) (hn : lookupNat st.nat client = none)
    (hno : ∀ e ∈ st.list, opens.contains e.key = false) :
    upstream dnsPort ki validate resolve st client cip wire opens plain = (st, [.search false]) := by
  unfold upstream
  simp only [hn, lookup_eq_none hno cip]

/-- On a live association a datagram that does not authenticate
    under the association's own key is not forwarded, even if another configured key opens it. -/
theorem known_client_uses_association_key (st : State) (client : String) (cip : Option Nat) (wire : Nat)
    (opens : List Nat) (plain : List UInt8) (a : Assoc) (hn : lookupNat st.nat client = some a)
    (ho : opens.contains a.key = false) :
    upstream dnsPort ki validate resolve st client cip wire opens plain = (st, [.search false, .report "ERR_CIPHER" wire 0]) := by
  unfold upstream
  simp only [hn, ho, Bool.false_eq_true, if_false]

/-- A datagram from an IPv4 (4 bytes or IPv4-mapped) or IPv6 source that fits the
    buffer is relayed to the association's client as `salt ‖ seal(key_assoc, srcaddr ‖ body)`: the
    association's own key, the true source address (7 or 19 header bytes), the unmodified body;
    padding in front of the salt is never part of what is sent. -/
theorem reply_layout (a : Assoc) (srcIP : List UInt8) (srcPort : Nat) (body : List UInt8)
    (hsrc : srcIP.length = 4 ∨ srcIP.length = 16)
    (hfit : a.saltSize + Gen.maxAddrLen + body.length + a.tagSize ≤ Gen.serverUDPBufferSize) :
    relayReply Gen.serverUDPBufferSize Gen.maxAddrLen a srcIP srcPort body =
      [.toClient a.client a.key (encodeIP srcIP srcPort ++ body) (a.saltSize + (encodeIP srcIP srcPort ++ body).length + a.tagSize),
       .fromTarget "OK" body.length (a.saltSize + (encodeIP srcIP srcPort ++ body).length + a.tagSize)] := by
  have hmax : 19 ≤ Gen.maxAddrLen := by decide +kernel
  have := encodeIP_length srcIP srcPort hsrc
  rw [relayReply_eq _ _ a srcIP srcPort body (by omega) (by omega), if_neg (by omega)]

/-- A target datagram that filled the read buffer (so the kernel may have
    truncated it) is dropped with ERR_PACK, never relayed modified — for every cipher of the
    generated table. -/
theorem truncation_never_relayed (a : Assoc) (srcIP : List UInt8) (srcPort : Nat) (body : List UInt8)
    (hsrc : srcIP.length = 4 ∨ srcIP.length = 16)
    (hc : ∃ c ∈ Gen.ciphers, a.saltSize = c.saltSize ∧ a.tagSize = c.tagSize)
    (hfull : body.length = Gen.serverUDPBufferSize - (a.saltSize + Gen.maxAddrLen)) :
    relayReply Gen.serverUDPBufferSize Gen.maxAddrLen a srcIP srcPort body = [.fromTarget "ERR_PACK" body.length 0] := by
  have hmax : 19 ≤ Gen.maxAddrLen := by decide +kernel
  have htab : ∀ c ∈ Gen.ciphers, c.saltSize + Gen.maxAddrLen ≤ Gen.serverUDPBufferSize ∧ 0 < c.tagSize := by decide +kernel
  obtain ⟨c, hcm, hs, ht⟩ := hc
  have := htab c hcm
  have := encodeIP_length srcIP srcPort hsrc
  rw [relayReply_eq _ _ a srcIP srcPort body (by omega) (by omega), if_pos (by omega)]

/-- Generated facts: the trial decryption of a first datagram writes into a buffer that is a local of the
    Handle call and distinct from the received datagram (a failed trial under one key cannot destroy
    the input for the next key, and listeners do not share it); the datagram is written to the
    validated address; `validatePacket` is called on the new-client and on the known-client branch. -/
theorem wiring : Gen.Wiring.udpTrialBuffersLocalAndDistinct = true ∧ Gen.Wiring.udpWritesToValidatedAddress = true ∧
    Gen.Wiring.udpValidatesBothBranches = true := by decide +kernel

example : relayReply Gen.serverUDPBufferSize Gen.maxAddrLen
    { client := "c", sock := 0, key := 0, keyId := "k", saltSize := 32, tagSize := 16 } [203, 0, 113, 10] 53 [1, 2, 3] =
    [.toClient "c" 0 ([1, 203, 0, 113, 10, 0, 53, 1, 2, 3]) 58, .fromTarget "OK" 3 58] := by decide +kernel


/-! The UDP key search, about the code itself.
`Gen.Code.findAccessKeyUDP` is TRANSLATED from service/udp.go on every run (extract/golean.go); the key list is an interface
(its snapshot is a parameter, its `MarkUsedByClientIP` call is recorded in the function's effect log), `shadowsocks.Unpack` is
a parameter. -/

/-- The translated search never panics; over ANY snapshot (any key list, order, cipher mix) it
    returns the plaintext, id and key of the first entry whose key opens the datagram and marks exactly that entry used; if no
    key opens it: an error, no plaintext, no call on the list -/
theorem code_findAccessKeyUDP
    (unpack : List UInt8 → List UInt8 → GoRT.Opaque "shadowsocks.EncryptionKey" → List UInt8 × Option String)
    (snapOf : GoRT.Opaque "service.CipherList" → GoRT.Opaque "netip.Addr" → List (GoRT.ListElem Gen.Code.CipherEntry))
    (dst src : List UInt8) (cl : GoRT.Opaque "service.CipherList") (ip : GoRT.Opaque "netip.Addr") (l : GoRT.Opaque "slog.Logger") :
    Gen.Code.findAccessKeyUDP snapOf unpack ip dst src cl l =
      some (match (snapOf cl ip).find? (fun e => Tie.Misc.opensU unpack dst src e.Value.CryptoKey) with
        | some e => ((unpack dst src e.Value.CryptoKey).1, e.Value.ID, e.Value.CryptoKey, none, [Tie.Misc.markEff cl ip e])
        | none => ([], "", ⟨0⟩, some "could not find valid UDP cipher", [])) :=
  Tie.Misc.findAccessKeyUDP_tie unpack dst src cl ip snapOf l

end OutlineModel.Props.C03
