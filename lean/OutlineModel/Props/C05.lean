import OutlineModel.Proofs.TieIP
import OutlineModel.Proofs.IP
import OutlineModel.Props.C03
import OutlineModel.Model.Dial
import OutlineModel.Gen.Wiring
import OutlineModel.Gen.Decisions
/-
C05 — The proxy never sends traffic to non-public destinations.

`requirePublicIP Gen.privateNets` is the model of `onet.RequirePublicIP` with the CIDR table
regenerated from net/private_net.go on every run; the `ip` correspondence campaign runs it against
the real function.  The theorems quantify over ALL 2^32 IPv4 addresses (4-byte and IPv4-mapped
16-byte encodings), ALL 2^128 16-byte values, and every other length (nil, truncated, odd).
The dial paths (every dialled TCP address and every datagram pass through this predicate) are the
theorems `tcp_*` (over Model/Dial) and `udp_*` (over Model/UDP) below.
-/
namespace OutlineModel.Props.C05
open OutlineModel OutlineModel.IP

/-- A 4-byte address is accepted iff it lies in none of the special-purpose
    IPv4 blocks of the statement (both directions: nothing forbidden is accepted, nothing public is
    rejected). -/
theorem requirePublic_v4 (a b c d : UInt8) :
    requirePublicIP Gen.privateNets [a, b, c, d] = .ok ↔ ¬ Forbidden4 a.toNat b.toNat c.toNat d.toNat := by
  rw [requirePublicIP_ok_iff, isGlobalUnicast_v4, isPrivate_v4]
  simp only [Forbidden4, not_or, and_assoc]

/-- The IPv4-mapped IPv6 encoding `::ffff:a.b.c.d` gets exactly the verdict of
    `a.b.c.d` (so writing a forbidden IPv4 destination as an IPv6 address changes nothing). -/
theorem requirePublic_mapped (a b c d : UInt8) :
    requirePublicIP Gen.privateNets (v4InV6Prefix ++ [a, b, c, d]) = .ok ↔ ¬ Forbidden4 a.toNat b.toNat c.toNat d.toNat := by
  rw [requirePublicIP_mapped _ rfl]; exact requirePublic_v4 a b c d

/-- A 16-byte address that is not IPv4-mapped is accepted iff it lies in none
    of the special-purpose IPv6 blocks of the statement. -/
theorem requirePublic_v6 (b0 b1 b2 b3 b4 b5 b6 b7 b8 b9 b10 b11 b12 b13 b14 b15 : UInt8)
    (h : to4 [b0,b1,b2,b3,b4,b5,b6,b7,b8,b9,b10,b11,b12,b13,b14,b15] = none) :
    requirePublicIP Gen.privateNets [b0,b1,b2,b3,b4,b5,b6,b7,b8,b9,b10,b11,b12,b13,b14,b15] = .ok ↔
    ¬ Forbidden6 b0.toNat b1.toNat ([b2,b3,b4,b5,b6,b7,b8,b9,b10,b11,b12,b13,b14,b15].map (·.toNat)) := by
  rw [requirePublicIP_ok_iff, isGlobalUnicast_v6 rfl h, isPrivate_v6 h]
  -- `::` and `::1` are stated on the fourteen bytes, `Forbidden6` on their values: the lists are compared element by
  -- element, and `eq_lit` reads each `b = k` as `b.toNat = k`
  simp only [Forbidden6, not_or, and_assoc, List.replicate_succ, List.replicate_zero, List.cons_append, List.nil_append,
    List.map_cons, List.map_nil, List.cons.injEq, eq_lit, Nat.reduceMod]

/-- every 16-byte value is covered by one of the two previous theorems -/
theorem sixteen_bytes_covered (b0 b1 b2 b3 b4 b5 b6 b7 b8 b9 b10 b11 b12 b13 b14 b15 : UInt8) :
    (to4 [b0,b1,b2,b3,b4,b5,b6,b7,b8,b9,b10,b11,b12,b13,b14,b15] = none) ∨
    ([b0,b1,b2,b3,b4,b5,b6,b7,b8,b9,b10,b11,b12,b13,b14,b15] = v4InV6Prefix ++ [b12,b13,b14,b15]) := by
  by_cases hc : (isZeros [b0,b1,b2,b3,b4,b5,b6,b7,b8,b9] && b10 == 0xff && b11 == 0xff) = true
  · right
    simp only [isZeros, List.all_cons, List.all_nil, Bool.and_true, Bool.and_eq_true, beq_iff_eq] at hc
    obtain ⟨⟨⟨rfl, rfl, rfl, rfl, rfl, rfl, rfl, rfl, rfl, rfl⟩, rfl⟩, rfl⟩ := hc
    rfl
  · left
    rw [to4, if_neg (by simp)]
    exact if_neg hc

/-- A nil IP (unparseable literal, zoned literal, empty resolution)
    and any byte string that is not 4 or 16 bytes long is refused. -/
theorem nil_and_odd_lengths_rejected (ip : IP) (h4 : ip.length ≠ 4) (h16 : ip.length ≠ 16) :
    requirePublicIP Gen.privateNets ip = .invalid :=
  requirePublicIP_invalid_of_length _ ip h4 h16

/-- ERR_ADDRESS_PRIVATE (`.priv`) is the verdict exactly for a global-unicast address of the private-network table -/
theorem private_status (ip : IP) :
    requirePublicIP Gen.privateNets ip = .priv ↔ (isGlobalUnicast ip = true ∧ isPrivate Gen.privateNets ip = true) :=
  requirePublicIP_priv_iff _ ip

/-- Whatever the resolver answers (one address, several, mixed
    families, zoned literals that do not parse) and whichever attempts succeed, every address that
    gets a `connect` passed the validator. -/
theorem tcp_only_validated_connects (validate : List UInt8 → Verdict) (connects : List UInt8 → Bool) :
    ∀ (cands : List (Option (List UInt8))) (ip : List UInt8),
      ip ∈ (Dial.dialSerial validate connects cands).1 → validate ip = .ok := by
  intro cands
  -- one case per branch of `dialSerial`: no candidate; a nil IP that passed; connected; tried and went on; refused
  fun_induction Dial.dialSerial validate connects cands with
  | case1 => nofun
  | case2 rest hok ih => exact ih
  | case3 rest a _ hok => intro ip h; rw [List.mem_singleton.1 h]; exact hok
  | case4 rest a _ cs r hrec hok ih =>
    intro ip h
    rcases List.mem_cons.1 h with rfl | h
    · exact hok
    · exact ih ip (hrec ▸ h)
  | case5 c rest _ ih => exact ih

/-- the same for the happy-eyeballs dial: its connects are those of the serial dials over the primary and the fallback
    candidates -/
theorem tcp_happy_eyeballs_validated (validate : List UInt8 → Verdict) (connects : List UInt8 → Bool)
    (p f : List (Option (List UInt8))) (ip : List UInt8) (h : ip ∈ Dial.dialParallel validate connects p f) :
    validate ip = .ok :=
  (List.mem_append.1 h).elim (tcp_only_validated_connects validate connects p ip)
    (tcp_only_validated_connects validate connects f ip)

/-- with the default policy: no TCP `connect` to a 4-byte address of a forbidden IPv4 block (the IPv4-mapped
    16-byte form of such an address: `requirePublic_mapped` with `tcp_only_validated_connects`) -/
theorem tcp_default_policy_v4 (connects : List UInt8 → Bool) (cands : List (Option (List UInt8))) (a b c d : UInt8)
    (h : [a, b, c, d] ∈ (Dial.dialSerial (requirePublicIP Gen.privateNets) connects cands).1) :
    ¬ Forbidden4 a.toNat b.toNat c.toNat d.toNat :=
  (requirePublic_v4 a b c d).1 (tcp_only_validated_connects _ connects cands _ h)

/-- Every datagram the UDP handler writes to a target — the first of
    an association or any later one — goes to an address for which the validator answered ok
    (restated from C03.forward_implies_auth for the policy). -/
theorem udp_every_datagram_validated (dnsPort : Nat) (ki : UDP.KeyInfo) (validate : List UInt8 → Verdict)
    (resolve : Socks.Target → UDP.Resolved) (st : UDP.State) (client : String) (cip : Option Nat) (wire : Nat)
    (opens : List Nat) (plain : List UInt8) (sock : Nat) (ip : List UInt8) (port : Nat) (payload : List UInt8)
    (h : UDP.Eff.send sock ip port payload ∈ (UDP.upstream dnsPort ki validate resolve st client cip wire opens plain).2) :
    validate ip = .ok :=
  (C03.forward_implies_auth dnsPort ki validate resolve st client cip wire opens plain sock ip port payload h).2.2

/-- The source has the shapes these theorems are about (regenerated facts): the default
    TCP dialer validates every dialled IP with RequirePublicIP in its Control hook; the packet
    handler installs RequirePublicIP, validates on both branches, and writes to the validated address (that
    `validatePacket` consults the validator unconditionally is proved about the translated function: C04
    `code_association_only_for_allowed_destination`). -/
theorem wiring : Gen.Wiring.tcpDefaultDialerRequiresPublicIP = true ∧ Gen.Wiring.tcpControlValidatesEveryDialledIP = true ∧
    Gen.Wiring.udpDefaultValidatorRequiresPublicIP = true ∧ Gen.Wiring.udpValidatesBothBranches = true ∧
    Gen.Wiring.udpWritesToValidatedAddress = true := by decide +kernel

/- concrete addresses on both sides of several block boundaries -/
example : requirePublicIP Gen.privateNets [100, 64, 0, 1] = .priv := by decide +kernel
example : requirePublicIP Gen.privateNets [100, 63, 255, 255] = .ok := by decide +kernel
example : requirePublicIP Gen.privateNets [100, 128, 0, 0] = .ok := by decide +kernel
example : requirePublicIP Gen.privateNets [172, 32, 0, 1] = .ok := by decide +kernel
example : requirePublicIP Gen.privateNets (v4InV6Prefix ++ [127, 0, 0, 1]) = .invalid := by decide +kernel
example : requirePublicIP Gen.privateNets [0x20, 0x01, 0x0d, 0xb8, 0,0,0,0,0,0,0,0,0,0,0,1] = .ok := by decide +kernel
example : requirePublicIP Gen.privateNets [0xfd, 0,0,0,0,0,0,0,0,0,0,0,0,0,0,1] = .priv := by decide +kernel
example : requirePublicIP Gen.privateNets [] = .invalid := by decide +kernel


/-- The statuses net/private_net.go can construct are the two of the model's `IP.requirePublicIP` (regenerated table).
    The ORDER of the tests of RequirePublicIP ("not global unicast", then the private-network table, else accept) is
    proved about the translated function (`code_requirePublicIP`). -/
theorem policy_statuses_as_modelled :
    Gen.Decisions.netStatuses = ["ERR_ADDRESS_INVALID", "ERR_ADDRESS_PRIVATE"] := by decide +kernel


/-! The same policy, about the code itself.
`Gen.Code.RequirePublicIP` and `Gen.Code.IsPrivateAddress` are TRANSLATED from net/private_net.go on every run
(extract/golean.go); the net.IP predicates they call are the prelude's (Model/IP.lean). -/

/-- the translated `RequirePublicIP` never panics and returns exactly the model's verdict -/
theorem code_requirePublicIP (ip : IP) :
    (Gen.Code.RequirePublicIP ip).bind Tie.IP.verdictOf = some (requirePublicIP Gen.privateNets ip) :=
  Tie.IP.requirePublicIP_tie ip

/-- The translated `RequirePublicIP` accepts (returns the nil error for) a 4-byte address exactly when it is outside
    every forbidden block: the whole IPv4 space. -/
theorem code_requirePublic_v4 (a b c d : UInt8) :
    Gen.Code.RequirePublicIP [a, b, c, d] = some none ↔ ¬ Forbidden4 a.toNat b.toNat c.toNat d.toNat := by
  rw [Tie.IP.requirePublicIP_nil_iff]; exact requirePublic_v4 a b c d

end OutlineModel.Props.C05
