import OutlineModel.Proofs.TieMisc
import OutlineModel.Proofs.TieHandle
import OutlineModel.Gen.Decisions
import OutlineModel.Proofs.TCP
import OutlineModel.Proofs.CipherList
import OutlineModel.Gen.Wiring
import OutlineModel.Gen.Consts
/-
C06 — Unauthenticated TCP input is absorbed silently until the timeout.

Model: Model/TCP.handle with logical close classes ("at the client's FIN", "at the deadline",
"only after the client's FIN"), tied to service/tcp.go by the `tcp` campaign: real handler on
loopback, 250–450 ms handshake timeout, probes of every kind with and without a client FIN,
close time taken from the handler's own AddClosed call, FIN-vs-RST seen by the client.
FIN-vs-RST and wall-clock timing are kernel/runtime behaviour: observed with tolerances, not proved.
-/
namespace OutlineModel.Props.C06
open OutlineModel OutlineModel.TCP OutlineModel.Auth OutlineModel.CipherList

def isWrite : Eff → Bool | .toClient _ => true | _ => false
def isDial : Eff → Bool | .dial => true | .toTarget _ _ => true | _ => false

variable (c : Cfg) (st : AuthState) (valid : Nat → Bool) (srvSalt : Entry → Bool) (hash : Entry → UInt32)
  (greeting : Nat → List UInt8)

/-- what the handler does with a connection that does not authenticate, whatever the reason -/
theorem probe_shape (s : Script)
    (h : (authenticate st (some 1) (decide (s.raw ≥ c.bytesForKeyFinding)) valid srvSalt hash).2.status ≠ .ok) :
    ∃ status found, (handle c st s valid srvSalt hash greeting).2 =
      [.search found, .probe status (match s.clientEnd with | .fin => "eof" | .idle => "timeout") s.raw,
       .closed status s.raw 0 0 false,
       .closeClass (match s.clientEnd with | .fin => "fin@after-client-fin" | .idle => "fin@deadline")] := by
  rcases handle_cases c st s valid srvSalt hash greeting with ⟨_, h'⟩ | ⟨ho, _⟩ | ⟨ho, _⟩ | ⟨ho, _⟩
  · exact ⟨_, _, h'⟩
  all_goals exact absurd ho h

/-- A connection that does not authenticate — random bytes of any length, none at all,
    a truncated or bit-flipped valid stream, a replay, a reflected server stream — gets nothing
    written back and makes the proxy contact nobody. -/
theorem probe_silent (s : Script)
    (h : (authenticate st (some 1) (decide (s.raw ≥ c.bytesForKeyFinding)) valid srvSalt hash).2.status ≠ .ok) :
    (handle c st s valid srvSalt hash greeting).2.any isWrite = false ∧
    (handle c st s valid srvSalt hash greeting).2.any isDial = false := by
  obtain ⟨status, found, hh⟩ := probe_shape c st valid srvSalt hash greeting s h
  rw [hh]; simp [isWrite, isDial]

/-- The probe report and the ClientProxy counter carry the number of bytes the
    client sent: everything was read. -/
theorem probe_reads_everything (s : Script)
    (h : (authenticate st (some 1) (decide (s.raw ≥ c.bytesForKeyFinding)) valid srvSalt hash).2.status ≠ .ok) :
    ∃ status drain, Eff.probe status drain s.raw ∈ (handle c st s valid srvSalt hash greeting).2 ∧
      Eff.closed status s.raw 0 0 false ∈ (handle c st s valid srvSalt hash greeting).2 := by
  obtain ⟨status, found, hh⟩ := probe_shape c st valid srvSalt hash greeting s h
  refine ⟨status, (match s.clientEnd with | .fin => "eof" | .idle => "timeout"), ?_, ?_⟩ <;> (rw [hh]; simp)

/-- When a non-authenticating connection is closed depends only on whether the client half-closed (at the
    client's FIN if it did, at the handshake deadline if it did not: `probe_shape`): the close class is
    identical for any two such connections with the same client end, whatever their content, length, the
    key list, or the replay-cache state. -/
theorem probe_close_time (s₁ s₂ : Script) (st₁ st₂ : AuthState) (valid₁ valid₂ : Nat → Bool)
    (srv₁ srv₂ : Entry → Bool) (hash₁ hash₂ : Entry → UInt32)
    (h₁ : (authenticate st₁ (some 1) (decide (s₁.raw ≥ c.bytesForKeyFinding)) valid₁ srv₁ hash₁).2.status ≠ .ok)
    (h₂ : (authenticate st₂ (some 1) (decide (s₂.raw ≥ c.bytesForKeyFinding)) valid₂ srv₂ hash₂).2.status ≠ .ok)
    (hend : s₁.clientEnd = s₂.clientEnd) :
    (handle c st₁ s₁ valid₁ srv₁ hash₁ greeting).2.filterMap (fun e => match e with | .closeClass k => some k | _ => none) =
    (handle c st₂ s₂ valid₂ srv₂ hash₂ greeting).2.filterMap (fun e => match e with | .closeClass k => some k | _ => none) := by
  obtain ⟨_, _, hh₁⟩ := probe_shape c st₁ valid₁ srv₁ hash₁ greeting s₁ h₁
  obtain ⟨_, _, hh₂⟩ := probe_shape c st₂ valid₂ srv₂ hash₂ greeting s₂ h₂
  rw [hh₁, hh₂, hend]; simp

/-- After authentication, a stream that turns invalid — unreadable address
    (ERR_READ_ADDRESS) or a chunk that fails during the relay (ERR_RELAY_CLIENT) — is never closed
    before the client closes: with a client that stays open the close class is
    "only after the client's FIN". -/
theorem postauth_drained (s : Script) (hidle : s.clientEnd = .idle) (status : String) (cp pt tp : Nat) (pc : Bool)
    (hc : Eff.closed status cp pt tp pc ∈ (handle c st s valid srvSalt hash greeting).2)
    (hst : status = "ERR_READ_ADDRESS" ∨ status = "ERR_RELAY_CLIENT") :
    Eff.closeClass "fin-after-client-fin" ∈ (handle c st s valid srvSalt hash greeting).2 := by
  rcases handle_cases c st s valid srvSalt hash greeting with
    ⟨_, h⟩ | ⟨_, h⟩ | ⟨_, _, stt, _, hstt, h⟩ | ⟨_, _, _, _, _, _, h⟩
  all_goals rw [h] at hc ⊢
  · -- refused: the status closed with is the authenticator's, never one of the two
    simp at hc
    rw [hc.1] at hst
    generalize (authenticate _ _ _ _ _ _).2.status = x at hst
    cases x <;> simp [Status.toString] at hst
  · simp [hidle]
  · simp at hc
    obtain ⟨rfl, -⟩ := hc
    rcases hstt with rfl | rfl | rfl | rfl <;> simp at hst
  · simp [hidle]

/-- The handshake timeout is the documented 59 s (generated constant).  That every authentication error
    takes the absorb branch is proved about the translated `handleConnection` (`code_unauthenticated_is_absorbed`). -/
theorem wiring : Gen.tcpReadTimeoutNs = 59000000000 := by decide +kernel

/-- `absorbProbe` — not translated, its byte counter is bumped behind its back by the
    counting connection — drains with exactly one `io.Copy(io.Discard, conn)` on the connection it was given: no cap, no
    limiting wrapper, no close, no deadline change (generated fact). -/
theorem probe_drain_is_unbounded : Gen.Wiring.tcpProbeDrainIsTheWholeConnection = true := by decide +kernel


/-- The translated `drainErrToString` (service/tcp.go) — the drain result reported with every probe —
    never panics and is "eof" for a clean end, "timeout" for a net.Error that timed out, "other" otherwise; these are the
    three literals of the generated table -/
theorem code_drain_result (timeout impl : Option String → Bool) (e : Option String) :
    Gen.Code.drainErrToString timeout impl e =
      some (if e = none then "eof" else if impl e && timeout e then "timeout" else "other") ∧
    Gen.Decisions.drainResults = ["eof", "other", "timeout"] :=
  ⟨Tie.Misc.drainErrToString_tie timeout impl e, by decide +kernel⟩

/-- The translated `streamHandler.handleConnection` (service/tcp.go), for every handler, context, clock, connection
    and every behaviour of its collaborators: when the stored authenticate function reports an error `st` (whatever the
    bytes were), the function never panics, returns exactly that error, and its calls are, in order: arm the deadline,
    run authenticate on the connection, then `absorbProbe` with that status — nothing else: no write, no close, the
    address is not read and nothing is dialled (the result is the same for every `getProxyRequest` and
    `proxyConnection`). -/
theorem code_unauthenticated_is_absorbed
    (ctxDeadline : GoRT.Opaque "context.Context" → Int × Bool) (dial : GoRT.Opaque "transport.FuncStreamDialer")
    (authenticate : Tie.Handle.Conn → String × Tie.Handle.Conn × Option String)
    (req req' : Tie.Handle.Conn → String × Option String)
    (disc : GoRT.Opaque "io.Writer") (now : Int)
    (relay relay' : GoRT.Opaque "slog.Logger" → GoRT.Opaque "context.Context" → GoRT.Opaque "transport.FuncStreamDialer" → String → Tie.Handle.Conn → Tie.Handle.Conn → Option String)
    (h : Gen.Code.streamHandler) (ctx : GoRT.Opaque "context.Context") (oc : Tie.Handle.Conn)
    (cm : GoRT.Opaque "service.TCPConnMetrics") (pm : Gen.Code.ProxyMetrics) (st : String)
    (hfail : (authenticate oc).2.2 = some st) :
    Gen.Code.streamHandler.handleConnection ctxDeadline dial authenticate req disc now relay h ctx oc cm pm =
      some (h, pm, some st, Tie.Handle.armEffs (ctxDeadline ctx) now h.readTimeout oc ++ [Tie.Handle.callAuth oc, Tie.Handle.absorbEff oc cm st]) ∧
    Gen.Code.streamHandler.handleConnection ctxDeadline dial authenticate req' disc now relay' h ctx oc cm pm =
      Gen.Code.streamHandler.handleConnection ctxDeadline dial authenticate req disc now relay h ctx oc cm pm := by
  simp only [Tie.Handle.handleConnection_tie, Tie.Handle.outcome_refused hfail, and_self]

/-- The deadline armed on the client connection before the first byte is read (the arming calls come before the call
    of authenticate, the first thing that reads) is a function of the clock, the handler's timeout and the context
    only: whatever authenticate, the address and the relay do, the log of the translated handler starts with
    `Tie.Handle.armEffs`, which mentions none of them (so two runs on the same connection that differ in everything the
    client sent arm alike), and the read deadline is `now + readTimeout` or the context's deadline if that is sooner. -/
theorem code_same_deadline_whatever_the_content
    (ctxDeadline : GoRT.Opaque "context.Context" → Int × Bool) (dial : GoRT.Opaque "transport.FuncStreamDialer")
    (authenticate : Tie.Handle.Conn → String × Tie.Handle.Conn × Option String)
    (req : Tie.Handle.Conn → String × Option String)
    (disc : GoRT.Opaque "io.Writer") (now : Int)
    (relay : GoRT.Opaque "slog.Logger" → GoRT.Opaque "context.Context" → GoRT.Opaque "transport.FuncStreamDialer" → String → Tie.Handle.Conn → Tie.Handle.Conn → Option String)
    (h : Gen.Code.streamHandler) (ctx : GoRT.Opaque "context.Context") (oc : Tie.Handle.Conn)
    (cm : GoRT.Opaque "service.TCPConnMetrics") (pm : Gen.Code.ProxyMetrics) :
    ∃ st rest, Gen.Code.streamHandler.handleConnection ctxDeadline dial authenticate req disc now relay h ctx oc cm pm =
        some (h, pm, st, Tie.Handle.armEffs (ctxDeadline ctx) now h.readTimeout oc ++ Tie.Handle.callAuth oc :: rest) ∧
      (Tie.Handle.readDeadline (ctxDeadline ctx) now h.readTimeout = now + h.readTimeout ∨
        ((ctxDeadline ctx).2 = true ∧ Tie.Handle.readDeadline (ctxDeadline ctx) now h.readTimeout = (ctxDeadline ctx).1 ∧
          (ctxDeadline ctx).1 < now + h.readTimeout)) := by
  rw [Tie.Handle.handleConnection_tie]
  exact ⟨_, _, rfl, Tie.Handle.readDeadline_cases _ _ _⟩

/-- After a successful authentication, an address header that cannot be read makes the
    translated handler clear the read deadline and then drain the raw client connection into io.Discard — the last call
    it makes — and return ERR_READ_ADDRESS; nothing is dialled (same result for every `proxyConnection`). -/
theorem code_bad_address_is_drained
    (ctxDeadline : GoRT.Opaque "context.Context" → Int × Bool) (dial : GoRT.Opaque "transport.FuncStreamDialer")
    (authenticate : Tie.Handle.Conn → String × Tie.Handle.Conn × Option String)
    (req : Tie.Handle.Conn → String × Option String)
    (disc : GoRT.Opaque "io.Writer") (now : Int)
    (relay relay' : GoRT.Opaque "slog.Logger" → GoRT.Opaque "context.Context" → GoRT.Opaque "transport.FuncStreamDialer" → String → Tie.Handle.Conn → Tie.Handle.Conn → Option String)
    (h : Gen.Code.streamHandler) (ctx : GoRT.Opaque "context.Context") (oc : Tie.Handle.Conn)
    (cm : GoRT.Opaque "service.TCPConnMetrics") (pm : Gen.Code.ProxyMetrics) (e : String)
    (hok : (authenticate oc).2.2 = none) (hbad : (req (authenticate oc).2.1).2 = some e) :
    Gen.Code.streamHandler.handleConnection ctxDeadline dial authenticate req disc now relay h ctx oc cm pm =
      some (h, pm, some "ERR_READ_ADDRESS",
        Tie.Handle.armEffs (ctxDeadline ctx) now h.readTimeout oc ++
          [Tie.Handle.callAuth oc, Tie.Handle.authEff cm (authenticate oc).1, Tie.Handle.callReq (authenticate oc).2.1,
           Tie.Handle.clearEff oc, Tie.Handle.drainEff disc oc]) ∧
    Gen.Code.streamHandler.handleConnection ctxDeadline dial authenticate req disc now relay' h ctx oc cm pm =
      Gen.Code.streamHandler.handleConnection ctxDeadline dial authenticate req disc now relay h ctx oc cm pm := by
  simp only [Tie.Handle.handleConnection_tie, Tie.Handle.outcome_bad_address hok hbad, and_self]

/-- an authenticate that fails with ERR_CIPHER on a context without deadline -/
example : (Gen.Code.streamHandler.handleConnection (fun _ => (0, false)) ⟨0⟩ (fun c => ("", c, some "ERR_CIPHER"))
    (fun _ => ("", none)) ⟨0⟩ 1000 (fun _ _ _ _ _ _ => none) { Gen.Code.streamHandler.zero with readTimeout := 59 } ⟨0⟩ ⟨7⟩ ⟨9⟩
    Gen.Code.ProxyMetrics.zero).map (fun r => (r.2.2.1, r.2.2.2.map (·.name))) =
    some (some "ERR_CIPHER", ["Conn.SetReadDeadline", "call authenticate", "absorbProbe"]) := rfl

end OutlineModel.Props.C06
