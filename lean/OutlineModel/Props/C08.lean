import OutlineModel.Proofs.TieMisc
import OutlineModel.Proofs.TieAuth
import OutlineModel.Proofs.TieSalt
import OutlineModel.Proofs.Auth
import OutlineModel.Gen.Consts
import OutlineModel.Gen.Ciphers
import OutlineModel.Gen.Wiring
/-
C08 — Server-issued salts are fresh, recognisable, and never accepted back.

Model: Model/Auth (getSalt / isServerSalt / marked / authenticate), tied to service/server_salt.go,
service/cipher_list.go and service/tcp.go by the `tcpauth` campaign (server-marked client salts built
by an independent HMAC implementation) and the `tcp` campaign (salts of real response streams).
HMAC is a parameter: theorems hold for every function `mac`.  Freshness of the random prefix is the
RNG contract; pairwise distinctness is checked empirically by the campaigns.
-/
namespace OutlineModel.Props.C08
open OutlineModel OutlineModel.Auth OutlineModel.CipherList

/-- Every salt the marking generator issues is recognised by it — for every HMAC, every random prefix,
    every mark length the tag is long enough for. -/
theorem own_salt_recognised (mac : List UInt8 → List UInt8) (markLen : Nat) (pre : List UInt8)
    (hmac : markLen ≤ (mac pre).length) :
    isServerSalt mac markLen (getSalt mac markLen pre) = true := by
  have hl : ((mac pre).take markLen).length = markLen := List.length_take_of_le hmac
  unfold isServerSalt getSalt
  simp only [List.length_append, hl, Nat.add_sub_cancel, List.take_left, List.drop_left]
  rw [if_neg (by omega)]
  exact beq_self_eq_true _

/-- Distinct random prefixes of one length give distinct salts (how many random bytes the prefix of a marked
    cipher has: `marked_iff_salt_ge_20`). -/
theorem salt_injective_in_prefix (mac : List UInt8 → List UInt8) (markLen : Nat) (p q : List UInt8)
    (hlen : p.length = q.length) (h : getSalt mac markLen p = getSalt mac markLen q) : p = q := by
  unfold getSalt at h
  exact (List.append_inj h hlen).1

/-- Over the generated cipher table and generated constants, a cipher's salts
    are marked exactly when its salt has at least 20 bytes; then ≥ 16 random bytes remain. -/
theorem marked_iff_salt_ge_20 : ∀ c ∈ Gen.ciphers,
    (marked c.saltSize Gen.serverSaltMarkLen Gen.minSaltEntropy = true ↔ 20 ≤ c.saltSize) ∧
    (marked c.saltSize Gen.serverSaltMarkLen Gen.minSaltEntropy = true → 16 ≤ c.saltSize - Gen.serverSaltMarkLen) := by
  decide +kernel

/-- A handshake whose salt the matched entry's generator recognises is refused as ERR_REPLAY_SERVER, with
    that entry's id — for EVERY replay-cache state, including a disabled (capacity 0) and a nil cache —
    and the cache is left as it was. -/
theorem reflected_refused (st : AuthState) (ip : Option Nat) (valid : Nat → Bool) (srvSalt : Entry → Bool)
    (hash : Entry → UInt32) (e : Entry) (i : Nat) (hf : (lookup st.list ip valid).2 = some (e, i)) (hs : srvSalt e = true) :
    (authenticate st ip true valid srvSalt hash).2.status = .errReplayServer ∧
    (authenticate st ip true valid srvSalt hash).2.id = e.id ∧
    (authenticate st ip true valid srvSalt hash).1.cache = st.cache := by
  rw [authenticate_some hf]
  simp [hs]

/-- Conversely ERR_REPLAY_SERVER is answered only for a salt the matched
    entry's generator recognises. -/
theorem replay_server_only_if_marked (st : AuthState) (ip : Option Nat) (enough : Bool) (valid : Nat → Bool)
    (srvSalt : Entry → Bool) (hash : Entry → UInt32)
    (h : (authenticate st ip enough valid srvSalt hash).2.status = .errReplayServer) :
    ∃ e i, (lookup st.list ip valid).2 = some (e, i) ∧ srvSalt e = true := by
  cases enough with
  | false => rw [authenticate_short] at h; cases h
  | true =>
    cases hl : (lookup st.list ip valid).2 with
    | none => rw [authenticate_none hl] at h; cases h
    | some ei =>
      rw [authenticate_some hl] at h
      refine ⟨ei.1, ei.2, rfl, Decidable.by_contra fun hs => ?_⟩
      simp only [if_neg hs] at h
      split at h <;> cases h

/-- MakeCipherEntry marks iff enough entropy remains (generated fact; also proved about the translated
    function, `code_marked_iff_enough_entropy`).  That the authenticator tests the server mark before the replay cache and
    gives the response writer the matched entry's generator is proved about the translated authenticator
    (`code_server_salt_is_refused_before_the_cache`, `code_accepted_connection_writes_marked_salts`). -/
theorem wiring : Gen.Wiring.markedIffEnoughEntropy = true := by decide +kernel

example : isServerSalt (fun p => p.reverse ++ [1, 2, 3, 4]) 4 (getSalt (fun p => p.reverse ++ [1, 2, 3, 4]) 4 [9, 8, 7, 6, 5]) = true := by decide +kernel
example : marked 16 4 16 = false ∧ marked 24 4 16 = true := by decide +kernel


/-! The recogniser, about the code itself.
`Gen.Code.serverSaltGenerator.splitSalt / IsServerSalt` are TRANSLATED from service/server_salt.go on every run
(extract/golean.go); HMAC (`getTag`) is a parameter. -/

/-- the translated `IsServerSalt` never panics (given a tag of at least 4 bytes: HMAC-SHA1 has 20) and is the model's
    recogniser with the generated mark length, for every HMAC, key and salt, short salts included -/
theorem code_isServerSalt (getTag : Gen.Code.serverSaltGenerator → List UInt8 → List UInt8) (sg : Gen.Code.serverSaltGenerator)
    (salt : List UInt8) (htag : ∀ p, 4 ≤ (getTag sg p).length) :
    Gen.Code.serverSaltGenerator.IsServerSalt getTag sg salt = some (isServerSalt (getTag sg) Gen.serverSaltMarkLen salt) :=
  Tie.Salt.isServerSalt_tie getTag sg salt htag

/-- the translated recogniser accepts every salt the model's generator issues -/
theorem code_own_salt_recognised (getTag : Gen.Code.serverSaltGenerator → List UInt8 → List UInt8) (sg : Gen.Code.serverSaltGenerator)
    (pre : List UInt8) (htag : ∀ p, 4 ≤ (getTag sg p).length) :
    Gen.Code.serverSaltGenerator.IsServerSalt getTag sg (getSalt (getTag sg) Gen.serverSaltMarkLen pre) = some true := by
  rw [code_isServerSalt getTag sg _ htag, own_salt_recognised (getTag sg) Gen.serverSaltMarkLen pre (htag pre)]


/-- The translated `MakeCipherEntry` (service/cipher_list.go) never panics and gives a key the
    MARKING salt generator exactly when the model's `marked` says so — and by `marked_iff_salt_ge_20`, over the generated
    cipher table, exactly for salts of at least 20 bytes. -/
theorem code_marked_iff_enough_entropy (saltSize : GoRT.Opaque "shadowsocks.EncryptionKey" → Int)
    (newGen : String → GoRT.Opaque "service.ServerSaltGenerator") (rnd : GoRT.Opaque "service.ServerSaltGenerator")
    (id secret : String) (k : GoRT.Opaque "shadowsocks.EncryptionKey") (c : Gen.CipherSpec) (hc : c ∈ Gen.ciphers)
    (hn : saltSize k = (c.saltSize : Int)) :
    Gen.Code.MakeCipherEntry saltSize newGen rnd id k secret =
      some (⟨id, k, (if 20 ≤ c.saltSize then newGen secret else rnd), ⟨0⟩⟩ : Gen.Code.CipherEntry) := by
  rw [Tie.Misc.makeCipherEntry_tie saltSize newGen rnd id secret k c.saltSize hn]
  simp only [(marked_iff_salt_ge_20 c hc).1]

/-- The translated stream authenticator (the function literal of `NewShadowsocksStreamAuthenticator`,
    service/tcp.go), for every behaviour of its collaborators: when the salt generator of the entry the key search
    found recognises the salt as one of the server's own, the result is ERR_REPLAY_SERVER with that entry's key id, no
    connection is handed back, and the replay cache returned is the one passed in — a reflected server handshake cannot
    evict or poison client salts. -/
theorem code_server_salt_is_refused_before_the_cache
    (newReader : GoRT.Opaque "io.Reader" → GoRT.Opaque "shadowsocks.EncryptionKey" → GoRT.Opaque "shadowsocks.Reader")
    (newWriter : Tie.Auth.Conn → GoRT.Opaque "shadowsocks.EncryptionKey" → GoRT.Opaque "shadowsocks.Writer")
    (isSrv : GoRT.Opaque "service.ServerSaltGenerator" → List UInt8 → Bool)
    (wrap : Tie.Auth.Conn → GoRT.Opaque "shadowsocks.Reader" → GoRT.Opaque "shadowsocks.Writer" → Tie.Auth.Conn)
    (findAccessKey : Tie.Auth.Conn → GoRT.Opaque "netip.Addr" → GoRT.Opaque "service.CipherList" → GoRT.Opaque "slog.Logger" → Tie.Auth.FA)
    (remoteIP : Tie.Auth.Conn → GoRT.Opaque "netip.Addr")
    (ciphers : GoRT.Opaque "service.CipherList") (metrics : GoRT.Opaque "service.ShadowsocksConnMetrics")
    (l : GoRT.Opaque "slog.Logger") (rc : Gen.Code.ReplayCache) (conn : Tie.Auth.Conn)
    (e : Gen.Code.CipherEntry) (rd : GoRT.Opaque "io.Reader") (salt : List UInt8) (t : Int)
    (hfa : findAccessKey conn (remoteIP conn) ciphers l = (some e, rd, salt, t, none))
    (hsrv : isSrv e.SaltGenerator salt = true) :
    Gen.Code.NewShadowsocksStreamAuthenticator newReader newWriter isSrv wrap findAccessKey remoteIP ciphers rc metrics l conn =
      some (rc, e.ID, ⟨0⟩, some "ERR_REPLAY_SERVER", [Tie.Auth.searchEff metrics true t]) := by
  obtain ⟨_, -, h⟩ := Tie.Auth.authenticator_found newReader newWriter isSrv wrap findAccessKey remoteIP ciphers rc metrics l conn hfa
  rw [h, if_pos hsrv]

/-- When the translated authenticator accepts a connection, the encrypting writer it wraps the connection with is
    given the salt generator of the entry that authenticated it, so that the server's own salts on this connection
    carry that key's mark. -/
theorem code_accepted_connection_writes_marked_salts
    (newReader : GoRT.Opaque "io.Reader" → GoRT.Opaque "shadowsocks.EncryptionKey" → GoRT.Opaque "shadowsocks.Reader")
    (newWriter : Tie.Auth.Conn → GoRT.Opaque "shadowsocks.EncryptionKey" → GoRT.Opaque "shadowsocks.Writer")
    (isSrv : GoRT.Opaque "service.ServerSaltGenerator" → List UInt8 → Bool)
    (wrap : Tie.Auth.Conn → GoRT.Opaque "shadowsocks.Reader" → GoRT.Opaque "shadowsocks.Writer" → Tie.Auth.Conn)
    (findAccessKey : Tie.Auth.Conn → GoRT.Opaque "netip.Addr" → GoRT.Opaque "service.CipherList" → GoRT.Opaque "slog.Logger" → Tie.Auth.FA)
    (remoteIP : Tie.Auth.Conn → GoRT.Opaque "netip.Addr")
    (ciphers : GoRT.Opaque "service.CipherList") (metrics : GoRT.Opaque "service.ShadowsocksConnMetrics")
    (l : GoRT.Opaque "slog.Logger") (rc rc' : Gen.Code.ReplayCache) (conn c' : Tie.Auth.Conn) (id : String) (effs : List GoRT.Eff)
    (hok : Gen.Code.NewShadowsocksStreamAuthenticator newReader newWriter isSrv wrap findAccessKey remoteIP ciphers rc metrics l conn =
      some (rc', id, c', none, effs)) :
    ∃ e, (findAccessKey conn (remoteIP conn) ciphers l).1 = some e ∧ id = e.ID ∧
      isSrv e.SaltGenerator (findAccessKey conn (remoteIP conn) ciphers l).2.2.1 = false ∧
      Tie.Auth.saltGenEff (newWriter conn e.CryptoKey) e.SaltGenerator ∈ effs ∧
      c' = wrap conn (newReader (findAccessKey conn (remoteIP conn) ciphers l).2.1 e.CryptoKey) (newWriter conn e.CryptoKey) := by
  rcases hfa : findAccessKey conn (remoteIP conn) ciphers l with ⟨ent, rd, salt, t, err⟩
  cases err with
  | some x => rw [Tie.Auth.authenticator_tie, hfa, Tie.Auth.outcome_error (h := by simp) ..] at hok; simp at hok
  | none =>
    cases ent with
    | none => rw [Tie.Auth.authenticator_tie, hfa, Tie.Auth.outcome_nil_entry] at hok; cases hok
    | some e =>
      -- of the three verdicts only the fresh one carries no error
      obtain ⟨rc1, -, h⟩ := Tie.Auth.authenticator_found newReader newWriter isSrv wrap findAccessKey remoteIP ciphers rc metrics l conn hfa
      rw [h] at hok
      by_cases hs : isSrv e.SaltGenerator salt = true
      · simp [hs] at hok
      · rw [if_neg hs] at hok
        split at hok <;> simp at hok
        obtain ⟨-, hid, hconn, heffs⟩ := hok
        exact ⟨e, rfl, hid.symm, by simpa using hs, by simp [← heffs], hconn.symm⟩

end OutlineModel.Props.C08
