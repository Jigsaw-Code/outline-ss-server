import OutlineModel.Proofs.TunnelTime
import OutlineModel.Proofs.TieTunnelTime
import OutlineModel.Proofs.TieConnMetrics
import OutlineModel.Model.Metrics
import OutlineModel.Props.C19
import OutlineModel.Gen.Wiring
/-
C17 — Tunnel time equals the time each client actually had a tunnel open.

Model: Model/TunnelTime (tunnelTimeMetrics: activeClients, startConnection, stopConnection,
reportTunnelTime, Collect) with an independent per-client specification (time accrues exactly while
at least one tunnel is open), tied to prometheus/metrics.go by the `metrics` campaign (real
collectors, stubbed clock, random interleavings of TCP/UDP opens and closes, clock advances and
scrapes; gathered `tunnel_time_seconds*` against the model and against independent interval
arithmetic).  The callers (AddAuthenticated / AddClosed, AddUDPNatEntry / RemoveNatEntry) are
Model/Metrics; that stops are matched to starts follows from C15/C16 (authenticated reported iff
authentication succeeded, closed once; added once, removed once).
-/
namespace OutlineModel.Props.C17
open OutlineModel OutlineModel.TunnelTime

/-- For every history of tunnel opens and closes (any number per client,
    any number of clients and keys) and scrapes with a non-decreasing clock, the tunnel time reported
    for an access key up to a scrape is the sum, over the client IPs that used the key, of the time
    during which that client had at least one tunnel open (`covered` of the specification `specRun`). -/
theorem per_key_equals_covered (t0 : Nat) (ops : List Op) (tEnd : Nat) (ks : List IPKey)
    (hmono : Monotone t0 ops) (hEnd : lastTime t0 ops ≤ tEnd)
    (hks : ks.Nodup) (hall : ∀ k ∈ startKeys ops, k ∈ ks) (a : String) :
    getOf (run TT.init (ops ++ [.collect tEnd])).perKey a
      = ((ks.filter (·.key == a)).map
          (fun k => (specRun k ⟨0, t0, 0⟩ (ops ++ [.collect tEnd])).covered)).sum :=
  TunnelTime.per_key_equals_covered t0 ops tEnd ks hmono hEnd hks hall a

/-- At ANY point (no final scrape needed) what has been reported plus what
    is pending for the open tunnels equals the covered time: scrapes neither lose nor double-count. -/
theorem nothing_lost_across_scrapes (t0 : Nat) (ops : List Op) (ks : List IPKey)
    (hmono : Monotone t0 ops) (hks : ks.Nodup) (hall : ∀ k ∈ startKeys ops, k ∈ ks) (a : String) :
    getOf (run TT.init ops).perKey a
        + ((ks.filter (·.key == a)).map (pending (run TT.init ops) (lastTime t0 ops))).sum
      = ((ks.filter (·.key == a)).map (fun k => (specRun k ⟨0, t0, 0⟩ ops).covered)).sum :=
  TunnelTime.per_key_reported_plus_pending t0 ops ks hmono hks hall a

/-- Overlapping tunnels of one client count once (the entry is active iff
    its depth is positive and its count is the depth), and covered time never exceeds elapsed time. -/
theorem no_double_count_overlap (t0 : Nat) (ops : List Op) (hmono : Monotone t0 ops) (k : IPKey) :
    ((find (run TT.init ops) k = none ↔ (specRun k ⟨0, t0, 0⟩ ops).depth = 0) ∧
     (∀ c, find (run TT.init ops) k = some c → c.count = ((specRun k ⟨0, t0, 0⟩ ops).depth : Int))) ∧
    (specRun k ⟨0, t0, 0⟩ ops).covered ≤ lastTime t0 ops - t0 :=
  ⟨TunnelTime.active_iff_depth t0 ops hmono k, (TunnelTime.no_double_count_overlap).2 k t0 ops hmono⟩

/-- A client that never started a tunnel contributes nothing, and
    without any start nothing is reported at all. -/
theorem unauthenticated_contributes_zero (t0 : Nat) (ops : List Op) :
    (∀ k, k ∉ startKeys ops → (specRun k ⟨0, t0, 0⟩ ops).covered = 0) ∧
    (startKeys ops = [] → (run TT.init ops).perKey = [] ∧ ∀ a, getOf (run TT.init ops).perKey a = 0) :=
  TunnelTime.unauthenticated_contributes_zero t0 ops

/-- The sum of all per-location counters equals the sum of all per-key counters,
    after every history. -/
theorem per_location_equals_per_key (ops : List Op) :
    ((run TT.init ops).perLoc.map (·.2)).sum = ((run TT.init ops).perKey.map (·.2)).sum :=
  TunnelTime.per_location_equals_per_key ops

/-- The regenerated lock facts behind reading a concurrent execution as one of the
    op histories above: startConnection, stopConnection and Collect each touch `activeClients` inside ONE critical
    section (`C19.oneSection`), and every access to an entry's connCount / startTime / info holds
    tunnelTimeMetrics.mu (`C19.guardedOK`).  That every schedule is then a history (critical sections of one mutex
    are serial, `C19.sections_serial`) is an argument, not a Lean statement: nothing links the table to `run` or
    `Tie.TunnelTime.codeRun`. -/
theorem schedules_reduce_to_histories :
    ∀ fn ∈ ["tunnelTimeMetrics.startConnection", "tunnelTimeMetrics.stopConnection", "tunnelTimeMetrics.Collect"],
      C19.oneSection "tunnelTimeMetrics" fn ["activeClients"] = true ∧
      (∀ f ∈ ["connCount", "startTime", "info"], C19.guardedOK "activeClient" f "tunnelTimeMetrics.mu" = true) := by
  intro fn hfn
  have hfields : ((C19.guardedFields.filter fun g => g.1 == "tunnelTimeMetrics").map fun g => g.2.1) =
      ["activeClients"] := by decide +kernel
  refine ⟨hfields ▸ C19.operations_atomic ("tunnelTimeMetrics", fn) ?_,
    fun f hf => (C19.guards_hold ("activeClient", f, "tunnelTimeMetrics.mu") ?_).1⟩
  -- each of the three operations, and each of the three fields, is a row of C19's table, wherever it stands
  · simp only [List.mem_cons, List.not_mem_nil, or_false] at hfn
    rcases hfn with rfl | rfl | rfl
    all_goals repeat constructor
  · simp only [List.mem_cons, List.not_mem_nil, or_false] at hf
    rcases hf with rfl | rfl | rfl
    all_goals repeat constructor

/-- The statement is one regenerated wiring fact, about UDP: the goroutine `natmap.Add`
    starts runs timedCopy, then RemoveNatEntry, then deletes the entry and closes its socket (service/udp.go).  For
    TCP, that AddAuthenticated is called once and only when authentication succeeded, and AddClosed once after the
    handler returned, are `C15.code_authentication_and_probe_reports` and `C15.code_closed_once_with_the_real_outcome`;
    what the calls do to the collector is `code_callers_pair_start_and_stop` below. -/
theorem callers_pair_start_and_stop :
    Gen.Wiring.natGoroutineRemovesAndCloses = true := by decide +kernel

/-- an authenticated connection with an EMPTY key id is stopped like any other (the caller remembers
    that it authenticated, `tcpConnMetrics.authenticated`, instead of testing the id) -/
theorem empty_key_id_is_stopped (m : Metrics.M) (id : Nat) (a : Metrics.ClientAddr) (ip : Nat) (ha : a.ipKey = some ip) :
    let m1 := Metrics.tcpAuth (Metrics.tcpOpen m id a) id ""
    (Metrics.tcpClose m1 id "OK" 0 0 0 0).tt = stop m1.tt { ip := ip, key := "" } m1.now := by
  intro m1
  simp only [m1, Metrics.tcpOpen, Metrics.tcpAuth, Metrics.tcpClose, List.find?_cons, beq_self_eq_true, ha]
  simp [Metrics.addData, Metrics.addIfNonZero, ha]


/-! `Gen.Code.tunnelTimeMetrics.startConnection / stopConnection / reportTunnelTime / Collect` are translated from
prometheus/metrics.go on every run (extract/golean.go): the clock is the parameter `now`, the database and
`netip.Addr.AsSlice` are parameters, the two counter vectors are seen through the effect log (`Tie.TunnelTime.perKeyOf`,
`perLocOf`). -/

theorem code_start_refines_model (get : GoRT.Opaque "ipinfo.IPInfoMap" → List UInt8 → Gen.Code.IPInfo × Option String)
    (asSlice : GoRT.Opaque "netip.Addr" → List UInt8) (asnLabel : Int → String) (now : Nat)
    (c : Gen.Code.tunnelTimeMetrics) (t : TT) (k : Gen.Code.IPKey) (h : Tie.TunnelTime.Sim asnLabel c t) :
    ∃ c', Gen.Code.tunnelTimeMetrics.startConnection asSlice get (now : Int) c k = some c' ∧ c'.ip2info = c.ip2info ∧
      Tie.TunnelTime.Sim asnLabel c'
        (start t (Tie.TunnelTime.absKey k) now (Tie.TunnelTime.locOf asnLabel (Tie.TunnelTime.lookupInfo get asSlice c k))) :=
  Tie.TunnelTime.start_tie get asSlice asnLabel now c t k h

theorem code_stop_refines_model (asnLabel : Int → String) (now : Nat) (c : Gen.Code.tunnelTimeMetrics) (t : TT)
    (k : Gen.Code.IPKey) (h : Tie.TunnelTime.Sim asnLabel c t) :
    ∃ c', Gen.Code.tunnelTimeMetrics.stopConnection asnLabel (now : Int) c k = some c' ∧ c'.ip2info = c.ip2info ∧
      Tie.TunnelTime.Sim asnLabel c' (stop t (Tie.TunnelTime.absKey k) now) :=
  Tie.TunnelTime.stop_tie asnLabel now c t k h

theorem code_collect_refines_model (asnLabel : Int → String) (now : Nat) (c : Gen.Code.tunnelTimeMetrics) (t : TT)
    (h : Tie.TunnelTime.Sim asnLabel c t) :
    ∃ c', Gen.Code.tunnelTimeMetrics.Collect asnLabel (now : Int) c = some c' ∧ c'.ip2info = c.ip2info ∧
      Tie.TunnelTime.Sim asnLabel c' (collect t now) :=
  Tie.TunnelTime.collect_tie asnLabel now c t h

/-- After ANY history of translated startConnection / stopConnection / Collect calls
    from the empty collector, with a non-decreasing clock, followed by a scrape at `tEnd`, the code has not panicked and
    what its effect log added to `tunnel_time_seconds{access_key=a}` is the covered time of the specification, summed
    over the clients of that key. -/
theorem code_per_key_equals_covered
    (get : GoRT.Opaque "ipinfo.IPInfoMap" → List UInt8 → Gen.Code.IPInfo × Option String)
    (asSlice : GoRT.Opaque "netip.Addr" → List UInt8) (asnLabel : Int → String) (db : GoRT.Opaque "ipinfo.IPInfoMap")
    (t0 : Nat) (cops : List Tie.TunnelTime.COp) (tEnd : Nat) (ks : List IPKey) (a : String) :
    let ops := cops.map (Tie.TunnelTime.absOp get asSlice asnLabel db)
    Monotone t0 ops → lastTime t0 ops ≤ tEnd → ks.Nodup → (∀ k ∈ startKeys ops, k ∈ ks) →
    ∃ c', Tie.TunnelTime.codeRun get asSlice asnLabel { Gen.Code.tunnelTimeMetrics.zero with ip2info := db }
            (cops ++ [.collect tEnd]) = some c' ∧
      getOf (Tie.TunnelTime.perKeyOf c'.eff) a =
        ((ks.filter (·.key == a)).map (fun k => (specRun k ⟨0, t0, 0⟩ (ops ++ [.collect tEnd])).covered)).sum := by
  intro ops hmono hEnd hks hall
  obtain ⟨c', h1, h2⟩ := Tie.TunnelTime.codeRun_sim get asSlice asnLabel (cops ++ [.collect tEnd])
    { Gen.Code.tunnelTimeMetrics.zero with ip2info := db } TT.init (Tie.TunnelTime.sim_zero asnLabel db)
  refine ⟨c', h1, ?_⟩
  rw [← h2.perKey, List.map_append]
  exact TunnelTime.per_key_equals_covered t0 ops tEnd ks hmono hEnd hks hall a

/- two overlapping tunnels of one client, 10–15 and 12–17: 7 is reported, not 10 -/
example :
    let k : Gen.Code.IPKey := { ip := ⟨5⟩, accessKey := "a" }
    (Tie.TunnelTime.codeRun (fun _ _ => (Gen.Code.IPInfo.zero, none)) (fun _ => [8, 8, 8, 8]) (fun _ => "") 
      Gen.Code.tunnelTimeMetrics.zero [.start k 10, .start k 12, .stop k 15, .stop k 17, .collect 20]).map
        (fun c => getOf (Tie.TunnelTime.perKeyOf c.eff) "a") = some 7 := by decide +kernel


/-! `Gen.Code.tcpConnMetrics.AddAuthenticated / AddClosed` and `Gen.Code.udpConnMetrics.RemoveNatEntry` are translated from
prometheus/metrics.go on every run; the collectors they call are shared objects, so their calls appear in the effect log of
the connection object (`Tie.ConnMetrics.ttCalls` keeps those on the tunnel-time collector); `toIPKey` is a parameter. -/

/-- For every key id — the EMPTY one included — `AddAuthenticated(key)` followed by
    `AddClosed` makes, on the tunnel-time collector, exactly one `startConnection` and one `stopConnection` of the same
    (client IP, key) when the client address yields an IP key, and nothing otherwise; neither call panics -/
theorem code_callers_pair_start_and_stop (toIPKey : GoRT.Opaque "net.Addr" → String → Gen.Code.IPKey × Option String)
    (cm : Gen.Code.tcpConnMetrics) (key status : String) (data : Gen.Code.ProxyMetrics) (d : Int) :
    ∃ cm1 cm2, Gen.Code.tcpConnMetrics.AddAuthenticated toIPKey cm key = some cm1 ∧
      Gen.Code.tcpConnMetrics.AddClosed toIPKey cm1 status data d = some cm2 ∧
      Tie.ConnMetrics.ttCalls cm2.eff = Tie.ConnMetrics.ttCalls cm.eff ++
        (if (toIPKey cm.clientAddr key).2 = none
         then [Tie.ConnMetrics.startEff (toIPKey cm.clientAddr key).1, Tie.ConnMetrics.stopEff (toIPKey cm.clientAddr key).1] else []) :=
  Tie.ConnMetrics.auth_then_close_pairs toIPKey cm key status data d

/-- Closing a connection that never authenticated makes no call on the
    tunnel-time collector; a UDP association's `RemoveNatEntry` makes one `stopConnection`, for the IP key of the
    object's client address and access key (none when the address yields no key).  That its constructor
    `newUDPConnMetrics` started that key is read in prometheus/metrics.go: the constructor is not translated. -/
theorem code_unauthenticated_contributes_nothing (toIPKey : GoRT.Opaque "net.Addr" → String → Gen.Code.IPKey × Option String)
    (cm : Gen.Code.tcpConnMetrics) (um : Gen.Code.udpConnMetrics) (status : String) (data : Gen.Code.ProxyMetrics) (d : Int)
    (h : cm.authenticated = false) :
    (∃ cm', Gen.Code.tcpConnMetrics.AddClosed toIPKey cm status data d = some cm' ∧
        Tie.ConnMetrics.ttCalls cm'.eff = Tie.ConnMetrics.ttCalls cm.eff) ∧
    (∃ um', Gen.Code.udpConnMetrics.RemoveNatEntry toIPKey um = some um' ∧
        Tie.ConnMetrics.ttCalls um'.eff = Tie.ConnMetrics.ttCalls um.eff ++
          (if (toIPKey um.clientAddr um.accessKey).2 = none then [Tie.ConnMetrics.stopEff (toIPKey um.clientAddr um.accessKey).1] else [])) :=
  ⟨Tie.ConnMetrics.unauthenticated_close_makes_no_tunnel_call toIPKey cm status data d h,
   Tie.ConnMetrics.removeNatEntry_tt toIPKey um⟩

end OutlineModel.Props.C17
