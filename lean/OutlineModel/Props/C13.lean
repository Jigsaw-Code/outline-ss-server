import OutlineModel.Model.Locks
import OutlineModel.Gen.LockFacts
/-
C13 — Listener management never deadlocks.

Generic theorem (Model/Locks): threads that acquire locks in strictly increasing rank never
deadlock — any number of threads, any interleaving; when all calls have returned every lock is
free (`manager_usable_afterwards`).  Generated facts (Gen/LockFacts, typed analysis of the working tree on every run): the
lock-order edges of service/listeners.go and cmd/outline-ss-server/main.go, through closures stored
in onCloseFunc fields and through interface calls, and the channel operations made under a lock.
Obligation: the edges admit a rank (no cycle), and nothing blocks on a channel while holding a lock.
The extractor is trusted; the `lockstress` campaign cross-checks it on the real manager.
-/
namespace OutlineModel.Props.C13
open OutlineModel OutlineModel.Locks

/-- the lock classes of the listener machinery, in the order they may be nested -/
def rank : String → Nat
  | "listenerSet.listenersMu" => 0
  | "listenerManager.mu" => 1
  | "virtualStreamListener.mu" => 2
  | "virtualPacketConn.mu" => 2
  | "multiStreamListener.mu" => 3
  | "multiPacketListener.mu" => 3
  | _ => 1000     -- any other class: must not be nested with the listener locks at all

def listenerClasses : List String :=
  ["listenerSet.listenersMu", "listenerManager.mu", "virtualStreamListener.mu", "virtualPacketConn.mu",
   "multiStreamListener.mu", "multiPacketListener.mu"]

/-- Every nested acquisition in the generated lock-order graph goes strictly up
    in rank — so the graph has no cycle (in particular not manager.mu ⇄ multi*.mu), and no edge
    nests two locks of the same class. -/
theorem lock_order_ranked : ∀ e ∈ Gen.LockFacts.lockEdges, rank e.1 < rank e.2 := by decide +kernel

/-- every edge that touches a listener lock stays inside the ranked classes (the catch-all rank 1000 is never
    what orders a listener lock) -/
theorem listener_edges_closed : ∀ e ∈ Gen.LockFacts.lockEdges,
    (e.1 ∈ listenerClasses ∨ e.2 ∈ listenerClasses) → (e.1 ∈ listenerClasses ∧ e.2 ∈ listenerClasses) := by decide +kernel

/-- No channel send/receive/select happens while a lock is held (a goroutine
    never waits for another one while owning a lock). -/
theorem no_blocking_under_lock : Gen.LockFacts.blockingUnderLock = [] := by decide +kernel

/-- No function returns, on any path (error paths included), with a lock held that
    no deferred unlock releases — the bracketing the rank argument assumes. -/
theorem no_lock_leaks : Gen.LockFacts.lockLeaks = [] := by decide +kernel

/-- Any set of threads whose lock programs are well ranked (`WR`) with ranks below 4, not all
    of them finished, has one that can take a step.  That the listen/close calls of the code are such
    threads is how `lock_order_ranked`, `no_lock_leaks` and `no_blocking_under_lock` are read: no Lean
    term connects `Gen.LockFacts.lockEdges` and `rank` to `WR`. -/
theorem no_deadlock (ts : List Thread) (hwr : ∀ t ∈ ts, WR t.held t.todo)
    (hR : ∀ t ∈ ts, ∀ l rest, t.todo = .acq l :: rest → l < 4)
    (hunf : ∃ t ∈ ts, ¬ finished t) : ∃ t ∈ ts, canStep ts t :=
  Locks.no_deadlock 4 ts hwr hR hunf

/-- "The manager remains usable afterwards": when every thread has finished, nothing is left locked. -/
theorem manager_usable_afterwards (ts : List Thread) (hwr : ∀ t ∈ ts, WR t.held t.todo)
    (hfin : ∀ t ∈ ts, finished t) (l : Nat) : ¬ holds ts l := by
  intro ⟨t, ht, hl⟩
  have h := hwr t ht
  rw [hfin t ht, WR] at h
  rw [h] at hl
  cases hl

/- the lock programs of ListenStream (manager, then multi) and of the last Close (manager, virtual, multi) -/
example : WR [] [.acq 1, .acq 3, .rel 3, .rel 1] ∧ WR [] [.acq 1, .acq 2, .acq 3, .rel 3, .rel 2, .rel 1] := by
  simp [WR]

end OutlineModel.Props.C13
