import OutlineModel.Proofs.Config
import OutlineModel.Gen.Wiring
/-
C11 — Reload never interrupts service on retained listeners.

Model: Model/Config.lean — `load` returns every intermediate state of the listener manager (after each
acquisition of the new generation and after each release of the old one).  "Bound" is "the manager
holds at least one handle on the address" (the manager closes the socket only when the last handle
goes: C12).  Tied to the code by the `config` campaign: clients hammer a retained address over TCP
and UDP with a key present in both configurations while the real reload runs (refused dials,
connections or datagrams handled by no generation or by two, unauthenticated clients), and relayed
connections opened before the reload — idle, mid-transfer, half-closed — must run to completion.
What the model cannot exhibit: the kernel's accept queue between the two generations' accept loops
(observed only), and the one window the code leaves open on purpose: a connection that has
authenticated and is still DIALLING its target when the old generation stops is aborted by the
context StreamServe cancels (`handlerContextGovernsOnlyTheDial`); it is neither refused,
unauthenticated nor relaying, so C11 does not speak about it; the campaign counts it apart.
-/
namespace OutlineModel.Props.C11
open OutlineModel OutlineModel.Config

/-- During a successful reload an address present in both the old and the new
    configuration is bound at EVERY intermediate step (each acquisition, each release). -/
theorem retained_never_unbound (canon : String → Option Nat) (addrOK : String → Bool) (s : Server) (c : Cfg)
    (fault : Fault) (hs : Consistent s) (hok : (load canon addrOK s c fault).2.1 = true) (lk : String)
    (hold : lk ∈ s.cur.map (·.1)) (hnew : lk ∈ (load canon addrOK s c fault).1.cur.map (·.1)) :
    ∀ m ∈ (load canon addrOK s c fault).2.2, lk ∈ m :=
  Config.retained_never_unbound canon addrOK s c fault hs hok lk hold hnew

/-- over any number of consecutive reloads the hypothesis `hs` of the other theorems holds before each of them -/
theorem consecutive_reloads (canon : String → Option Nat) (addrOK : String → Bool) (inputs : List (Cfg × Fault)) :
    Consistent (runLoads canon addrOK Server.init inputs) :=
  (runLoads_spec canon addrOK inputs Server.init consistent_init).2

/-- At every intermediate step of a successful reload the manager holds at
    least one handle on a retained address.  Only this lower bound is stated; the second example below
    shows the count reaching two (old and new generation at once). -/
theorem handles_between_one_and_both (canon : String → Option Nat) (addrOK : String → Bool) (s : Server) (c : Cfg)
    (fault : Fault) (hs : Consistent s) (hok : (load canon addrOK s c fault).2.1 = true) (lk : String)
    (hold : lk ∈ s.cur.map (·.1)) (hnew : lk ∈ (load canon addrOK s c fault).1.cur.map (·.1)) :
    ∀ m ∈ (load canon addrOK s c fault).2.2, 1 ≤ m.count lk := by
  intro m hm
  exact List.count_pos_iff.2 (retained_never_unbound canon addrOK s c fault hs hok lk hold hnew m hm)

/-- A client key that the old AND the new serving table accept on the
    address is accepted by whichever generation's handle receives the connection (the two hypotheses,
    restated over the list `[old, new]`). -/
theorem both_generations_authenticate (old new : Serving) (lk : String) (ck : ClientKey)
    (ho : authOn old lk ck ≠ none) (hn : authOn new lk ck ≠ none) :
    ∀ gen ∈ [old, new], authOn gen lk ck ≠ none :=
  List.forall_mem_cons.2 ⟨ho, List.forall_mem_cons.2 ⟨hn, nofun⟩⟩

/-- Stopping a generation closes its listener handles and nothing else;
    the context its accept loop cancels reaches only the target dial — a connection that is already
    relaying has no reference to the generation that accepted it; and loadConfig starts the new
    generation before it stops the old one (regenerated wiring facts). -/
theorem reload_touches_only_listeners : Gen.Wiring.stopClosesListenersOnly = true ∧
    Gen.Wiring.handlerContextGovernsOnlyTheDial = true ∧ Gen.Wiring.reloadStartsNewBeforeStoppingOld = true := by decide +kernel

/-! `exA` → `exB` keeps tcp/:9000 and udp/:9000, drops tcp/:9001, adds tcp/:9002: six steps -/
example : Consistent exS1 ∧ (load exCanon exAddrOK exS1 exB .none).2.1 = true ∧
    "tcp/:9000" ∈ exS1.cur.map (·.1) ∧ "tcp/:9000" ∈ (load exCanon exAddrOK exS1 exB .none).1.cur.map (·.1) ∧
    (load exCanon exAddrOK exS1 exB .none).2.2.length = 6 := ⟨consistent_preserved exCanon exAddrOK Server.init exA .none consistent_init, by decide +kernel, by decide +kernel, by decide +kernel, by decide +kernel⟩
example : ∃ m ∈ (load exCanon exAddrOK exS1 exB .none).2.2, m.count "tcp/:9000" = 2 := by decide +kernel

end OutlineModel.Props.C11
