import OutlineModel.Proofs.TieValidate
import OutlineModel.Proofs.Config
import OutlineModel.Gen.Wiring
/-
C10 — Configuration reload is all-or-nothing.

Model: Model/Config.lean (`load`: read/parse fault, Validate, the start phase over the plan of
acquisitions — legacy ports, then services in file order — with a cipher error or a failing bind at
ANY index, release of the failed generation, start-new-then-stop-old on success) over a listener
manager that counts handles per address.  Tied to cmd/outline-ss-server by the `config` campaign (the
real loadConfig/runConfig/Stop in a child process inside a private network namespace: real files,
real binds that fail, real clients probing which (listener, key) pairs authenticate, /proc/net for
what is bound, goroutine count after Stop) and by regenerated wiring facts.
-/
namespace OutlineModel.Props.C10
open OutlineModel OutlineModel.Config

/-- After ANY sequence of reload attempts (each with any configuration and any
    fault: unreadable/malformed file, validation error, bad cipher in any service, failing bind at any
    index) what is serving is exactly the plan of the most recent attempt that was accepted — nothing
    when none was — and the manager holds exactly the handles of that configuration: every handle of
    every failed or replaced generation has been released. -/
theorem reload_all_or_nothing (canon : String → Option Nat) (addrOK : String → Bool) (inputs : List (Cfg × Fault)) :
    let final := runLoads canon addrOK Server.init inputs
    let served : Serving :=
      match inputs.reverse.find? (fun cf => accepts canon addrOK cf.1 cf.2) with
      | none => []
      | some cf => (plan canon cf.1).filterMap id
    final.cur = served ∧ final.mgr.Perm (served.map (·.1)) := by
  have h := Config.reload_all_or_nothing canon addrOK inputs
  exact ⟨h.1, h.2.2⟩

/-- A load succeeds iff the file is readable and parses, Validate passes, every cipher
    of every legacy key and service is accepted, and no bind fails — whatever was serving before. -/
theorem failure_stages (canon : String → Option Nat) (addrOK : String → Bool) (s : Server) (c : Cfg) (fault : Fault) :
    (load canon addrOK s c fault).2.1 =
      (!(fault == .read) && validate addrOK c && (plan canon c).all Option.isSome &&
        (match fault with
         | .bind k => decide ((plan canon c).length ≤ k)
         | _ => true)) :=
  load_ok_eq_accepts canon addrOK s c fault

/-- stage 1: a file that cannot be read or parsed -/
theorem unreadable_fails (canon addrOK) (s : Server) (c : Cfg) : (load canon addrOK s c .read).2.1 = false := by
  rw [failure_stages]; simp
/-- stage 2: a configuration that Validate refuses -/
theorem invalid_fails (canon addrOK) (s : Server) (c : Cfg) (f : Fault) (h : validate addrOK c = false) :
    (load canon addrOK s c f).2.1 = false := by
  rw [failure_stages, h]; simp
/-- stage 3: a cipher that is not accepted, in any legacy key or service of the plan -/
theorem bad_cipher_fails (canon addrOK) (s : Server) (c : Cfg) (f : Fault) (h : none ∈ plan canon c) :
    (load canon addrOK s c f).2.1 = false := by
  rw [failure_stages, List.all_eq_false.2 ⟨none, h, Bool.false_ne_true⟩]
  simp
/-- stage 4: a bind that fails, at any index of the plan -/
theorem failing_bind_fails (canon addrOK) (s : Server) (c : Cfg) (k : Nat) (h : k < (plan canon c).length) :
    (load canon addrOK s c (.bind k)).2.1 = false := by
  rw [failure_stages]
  simp [Nat.not_le_of_lt h]

/-- A reload that fails at any stage leaves the serving table as it was
    and the manager with the same handles (those of the failed generation have all been released). -/
theorem failed_reload_changes_nothing (canon : String → Option Nat) (addrOK : String → Bool) (s : Server) (c : Cfg)
    (fault : Fault) (hfail : (load canon addrOK s c fault).2.1 = false) :
    (load canon addrOK s c fault).1.cur = s.cur ∧ (load canon addrOK s c fault).1.mgr.Perm s.mgr :=
  load_failed_restores canon addrOK s c fault hfail

/-- While a failing reload runs (acquisitions of the new generation, then
    their release) every address of the serving configuration stays bound at every intermediate step. -/
theorem failed_reload_never_unbinds (canon : String → Option Nat) (addrOK : String → Bool) (s : Server) (c : Cfg)
    (fault : Fault) (hs : Consistent s) (hfail : (load canon addrOK s c fault).2.1 = false) (lk : String)
    (hold : lk ∈ s.cur.map (·.1)) :
    ∀ m ∈ (load canon addrOK s c fault).2.2, lk ∈ m :=
  bound_throughout canon addrOK s c fault hs lk hold
    (by rw [(load_failed_restores canon addrOK s c fault hfail).1]; exact hold)

/-- After a successful reload the serving table is the plan of the new
    configuration and nothing else, whatever was serving before (so removed keys and listeners are
    gone for new connections), and the manager holds exactly its handles. -/
theorem successful_reload_fully_replaces (canon : String → Option Nat) (addrOK : String → Bool) (s s' : Server) (c : Cfg)
    (fault : Fault) (hs : Consistent s) (hs' : Consistent s') (hok : (load canon addrOK s c fault).2.1 = true) :
    (load canon addrOK s c fault).1.cur = (plan canon c).filterMap id ∧
    (load canon addrOK s c fault).1.cur = (load canon addrOK s' c fault).1.cur ∧
    Consistent (load canon addrOK s c fault).1 := by
  have hok' : (load canon addrOK s' c fault).2.1 = true := by
    rw [load_ok_eq_accepts] at hok ⊢; exact hok
  have h := load_ok_cur canon addrOK s c fault hok
  exact ⟨h, h.trans (load_ok_cur canon addrOK s' c fault hok').symm, consistent_preserved canon addrOK s c fault hs⟩

/-- Every reachable server is consistent (the manager's handles are those of the serving
    configuration), so the hypotheses above hold at every reload. -/
theorem invariant (canon : String → Option Nat) (addrOK : String → Bool) (inputs : List (Cfg × Fault)) :
    Consistent (runLoads canon addrOK Server.init inputs) :=
  (runLoads_spec canon addrOK inputs Server.init consistent_init).2

/-- The shape of the source the model's `load` mirrors, regenerated on every run. -/
theorem wiring : Gen.Wiring.loadConfigStages = true ∧ Gen.Wiring.generationListenersInOneSet = true ∧
    Gen.Wiring.failedStartClosesItsSet = true ∧ Gen.Wiring.reloadStartsNewBeforeStoppingOld = true ∧
    Gen.Wiring.stopClosesListenersOnly = true := by decide +kernel

/-! a failing bind at index 1 of a reload that shares an address with the serving
    configuration; a bad cipher in the second service; then a successful replacement -/
example : (load exCanon exAddrOK exS1 exB (.bind 1)).2.1 = false ∧ (load exCanon exAddrOK exS1 exB (.bind 1)).1.cur = exS1.cur ∧
    (load exCanon exAddrOK exS1 exB (.bind 1)).1.mgr = exS1.mgr := by decide +kernel
example : none ∈ plan exCanon exBad ∧ (load exCanon exAddrOK exS1 exBad .none).2.1 = false := by decide +kernel
example : Consistent exS1 ∧ (load exCanon exAddrOK exS1 exB .none).2.1 = true := ⟨consistent_preserved exCanon exAddrOK Server.init exA .none consistent_init, by decide +kernel⟩
example : ∀ m ∈ (load exCanon exAddrOK exS1 exB (.bind 1)).2.2, "tcp/:9001" ∈ m := by decide +kernel


/-! The validation stage, about the code itself.
`Gen.Code.Config.Validate` is TRANSLATED from cmd/outline-ss-server/config.go on every run (extract/golean.go);
`net.SplitHostPort` and `net.ParseIP` are parameters (any functions). -/

/-- The translated `Validate` never panics; for listener types `tcp` / `udp` it accepts exactly what the
    model's `validate` accepts (every host an IP literal, listener keys pairwise distinct), whatever the parsers answer;
    and a listener of any other type makes it fail -/
theorem code_validate (parseIP : String → List UInt8) (split : String → String × String × Option String) (c : Gen.Code.Config) :
    ((∀ l ∈ c.Services.flatMap (·.Listeners), Tie.Validate.typeOK l) →
      (Gen.Code.Config.Validate parseIP split c).map (fun r => r.2.isNone) =
        some (Config.validate (Tie.Validate.addrOK parseIP split) (Tie.Validate.absCfg c))) ∧
    (∀ l ∈ c.Services.flatMap (·.Listeners), ¬ Tie.Validate.typeOK l →
      ∃ e, Gen.Code.Config.Validate parseIP split c = some (c, some e)) :=
  ⟨Tie.Validate.validate_tie parseIP split c, fun l hl ht => Tie.Validate.unsupported_type_rejected parseIP split c l hl ht⟩

end OutlineModel.Props.C10
