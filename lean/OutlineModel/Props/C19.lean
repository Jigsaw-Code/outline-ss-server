import OutlineModel.Gen.LockFacts
import OutlineModel.Gen.Wiring
import OutlineModel.Proofs.LockSet
/-
C19 — Shared server state is free of data races under concurrent use.

Generated facts (Gen/LockFacts.accesses): every read and write of a field of the shared structures,
with the locks held at that point (through helper calls), the ordinal of the critical section it
lies in, and whether the object was still private to the function building it.  Obligations, by
`decide` over the whole generated table (a proof: the quantifier IS that table):
  * guarded fields: every post-publication access holds the guard — exclusively for writes — but for
    the accesses that `orderedOtherwise` exempts, with the argument given there;
  * immutable fields (channels, callbacks set at construction): no post-publication write;
  * atomic operations: all accesses of an operation to the guarded state lie in ONE critical section
    (so the state evolves by whole operations: results equal the sequential order of acquisition).
The generic justification (a lock-set discipline excludes unordered conflicting accesses; whole
critical sections serialise) is Model/LockSet; sequential specifications are the models of
C01/C07/C04/C17.  The Go memory model (mutex release/acquire ordering) is the contract.  That an
execution of the code is a trace of Model/LockSet in which the table's facts hold is not a Lean
statement.  The extractor (extract/locks.go) is trusted; the `conc`, `lockstress` and `metrics`
campaigns run under the race detector.
-/
namespace OutlineModel.Props.C19
open OutlineModel OutlineModel.Gen.LockFacts

def touches (a : Access) (strct field : String) : Bool := a.strct == strct && a.field == field

/-- Accesses whose ordering does not come from a lock visible to the lock-set analysis:
    * the on-close closures the manager installs (`ListenStream$1`, `ListenPacket$1`) delete the map
      entry without locking: they run only inside managedStreamListener/managedPacketConn.Close,
      which holds `listenerManager.mu` (generated fact `managerReturnsOnlyWrappedListeners`: the
      shared listener and what it hands out are reachable only through those wrappers);
    * the reader goroutine of a shared packet listener (`multiPacketListener.Acquire$1`) reads `pc`,
      `readCh`, `doneCh`, which are written once, under the lock, before the `go` statement that
      starts it, in a block guarded by `m.pc == nil` that `pc` (never reset) lets run only once. -/
def orderedOtherwise (a : Access) : Bool :=
  (a.fn == "listenerManager.ListenStream$1" && a.strct == "listenerManager" && a.field == "streamListeners") ||
  (a.fn == "listenerManager.ListenPacket$1" && a.strct == "listenerManager" && a.field == "packetListeners") ||
  (a.fn == "multiPacketListener.Acquire$1" && a.strct == "multiPacketListener" && !a.write &&
    (a.field == "pc" || a.field == "readCh" || a.field == "doneCh"))

def guardedOK (strct field guard : String) : Bool :=
  accesses.all fun a => !touches a strct field || a.prepub || orderedOtherwise a ||
    a.held.any fun h => h.1 == guard && (h.2 || !a.write)

def immutableOK (strct field : String) : Bool :=
  accesses.all fun a => !touches a strct field || a.prepub || !a.write

def oneSection (strct fn : String) (fields : List String) : Bool :=
  let accs := accesses.filter fun a => a.strct == strct && a.fn == fn && !a.prepub && fields.contains a.field
  !accs.isEmpty && accs.all fun a => a.sect != 0 && accs.all fun b => b.sect == a.sect

/-- the field exists in the generated table (guards against a silently renamed field) -/
def known (strct field : String) : Bool := accesses.any fun a => touches a strct field

def guardedFields : List (String × String × String) := [
  ("ReplayCache", "capacity", "ReplayCache.mutex"), ("ReplayCache", "active", "ReplayCache.mutex"),
  ("ReplayCache", "archive", "ReplayCache.mutex"),
  ("cipherList", "list", "cipherList.mu"), ("CipherEntry", "lastClientIP", "cipherList.mu"),
  ("natmap", "keyConn", "natmap.(embedded)"),
  ("multiStreamListener", "ln", "multiStreamListener.mu"), ("multiStreamListener", "count", "multiStreamListener.mu"),
  ("multiStreamListener", "acceptCh", "multiStreamListener.mu"), ("multiStreamListener", "doneCh", "multiStreamListener.mu"),
  ("multiStreamListener", "onCloseFunc", "multiStreamListener.mu"),
  ("multiPacketListener", "pc", "multiPacketListener.mu"), ("multiPacketListener", "count", "multiPacketListener.mu"),
  ("multiPacketListener", "readCh", "multiPacketListener.mu"), ("multiPacketListener", "doneCh", "multiPacketListener.mu"),
  ("multiPacketListener", "onCloseFunc", "multiPacketListener.mu"),
  ("virtualStreamListener", "acceptCh", "virtualStreamListener.mu"), ("virtualStreamListener", "onCloseFunc", "virtualStreamListener.mu"),
  ("virtualPacketConn", "onCloseFunc", "virtualPacketConn.mu"),
  ("listenerManager", "streamListeners", "listenerManager.mu"), ("listenerManager", "packetListeners", "listenerManager.mu"),
  ("tunnelTimeMetrics", "activeClients", "tunnelTimeMetrics.mu"),
  ("activeClient", "connCount", "tunnelTimeMetrics.mu"), ("activeClient", "startTime", "tunnelTimeMetrics.mu"),
  ("activeClient", "info", "tunnelTimeMetrics.mu")]

def immutableFields : List (String × String) := [
  ("virtualStreamListener", "closeCh"), ("virtualStreamListener", "addr"),
  ("virtualPacketConn", "closeCh"), ("virtualPacketConn", "readCh"),
  ("multiStreamListener", "addr"), ("multiPacketListener", "addr"),
  ("CipherEntry", "ID"), ("CipherEntry", "CryptoKey"), ("CipherEntry", "SaltGenerator"),
  ("natmap", "timeout"), ("natmap", "metrics"), ("natmap", "logger"),
  ("natconn", "cryptoKey"), ("natconn", "metrics"), ("natconn", "defaultTimeout"),
  ("tunnelTimeMetrics", "ip2info")]

def atomicOps : List (String × String) := [
  ("ReplayCache", "ReplayCache.Add"), ("ReplayCache", "ReplayCache.Resize"),
  ("cipherList", "cipherList.SnapshotForClientIP"), ("cipherList", "cipherList.MarkUsedByClientIP"), ("cipherList", "cipherList.Update"),
  ("natmap", "natmap.Get"), ("natmap", "natmap.set"), ("natmap", "natmap.del"), ("natmap", "natmap.Close"),
  ("tunnelTimeMetrics", "tunnelTimeMetrics.startConnection"), ("tunnelTimeMetrics", "tunnelTimeMetrics.stopConnection"),
  ("tunnelTimeMetrics", "tunnelTimeMetrics.Collect")]

def accessesTo (strct : String) : List Access := accesses.filter fun a => a.strct == strct

private theorem all_accessesTo (strct : String) (q r : Access → Bool) :
    (accesses.all fun a => !(a.strct == strct && q a) || r a) = (accessesTo strct).all fun a => !q a || r a := by
  simp only [accessesTo, List.all_filter, Bool.not_and, Bool.or_assoc]

private theorem any_accessesTo (strct : String) (q : Access → Bool) :
    (accesses.any fun a => a.strct == strct && q a) = (accessesTo strct).any q := by
  simp only [accessesTo, List.any_filter]

private theorem filter_accessesTo (strct : String) (q : Access → Bool) :
    (accesses.filter fun a => a.strct == strct && q a) = (accessesTo strct).filter q := by
  rw [accessesTo, List.filter_filter]
  exact List.filter_congr fun a _ => Bool.and_comm _ _

/-- the three obligations over the generated table and the count `exemptions_justified` needs, by ONE evaluation: the
    obligations turned into a single Boolean, with their tables written out and every check read over `accessesTo`
    (the sublist of one structure), so that the kernel decodes each string of the generated table and collects the
    accesses to each structure once for all four (it keeps the values of closed terms it has met) -/
private theorem table_ok :
    (∀ g ∈ guardedFields, guardedOK g.1 g.2.1 g.2.2 = true ∧ known g.1 g.2.1 = true) ∧
    (∀ f ∈ immutableFields, immutableOK f.1 f.2 = true) ∧
    (∀ o ∈ atomicOps, oneSection o.1 o.2 ((guardedFields.filter fun g => g.1 == o.1).map fun g => g.2.1) = true) ∧
    (accesses.filter fun a => touches a "multiPacketListener" "pc" && a.write).length = 1 := by
  simp only [← Bool.and_eq_true, ← List.all_eq_true]
  simp only [guardedFields, immutableFields, atomicOps, List.all_cons, List.all_nil, Bool.and_true,
    guardedOK, known, immutableOK, oneSection, touches, Bool.or_assoc, Bool.and_assoc,
    all_accessesTo, any_accessesTo, filter_accessesTo]
  decide +kernel

/-- Every shared mutable field is accessed, after publication, only with its guard held
    (read lock suffices for reads, writes need the exclusive lock) — but for the accesses listed in
    `orderedOtherwise`; and each field occurs in the table. -/
theorem guards_hold : ∀ g ∈ guardedFields, guardedOK g.1 g.2.1 g.2.2 = true ∧ known g.1 g.2.1 = true := table_ok.1

/-- the fact the first exemption rests on, and: `pc` of a shared packet listener is written in
    exactly one place (so the block that starts the reader goroutine runs once) -/
theorem exemptions_justified : Gen.Wiring.managerReturnsOnlyWrappedListeners = true ∧
    ((accesses.filter fun a => touches a "multiPacketListener" "pc" && a.write).length = 1) :=
  ⟨by decide +kernel, table_ok.2.2.2⟩

/-- Fields read without a lock (channels selected on, configuration,
    callbacks installed by the constructor) are never written after publication. -/
theorem immutables_never_written : ∀ f ∈ immutableFields, immutableOK f.1 f.2 = true := table_ok.2.1

/-- Each operation of the key list, the replay history, the association table and
    the tunnel-time collector touches its state inside one critical section. -/
theorem operations_atomic : ∀ o ∈ atomicOps,
    oneSection o.1 o.2 ((guardedFields.filter fun g => g.1 == o.1).map fun g => g.2.1) = true := table_ok.2.2.1

/-- Generic: in any execution that respects mutual exclusion, if every access
    to a variable happens while its guard is held, two accesses by different goroutines are ordered
    by a release of the guard by the first and an acquisition by the second — they are not a data
    race under the Go memory model. -/
theorem lockset_race_free {tr : List LockSet.Ev} {x g i j t1 t2 : Nat}
    (hw : LockSet.WellFormed tr) (hg : LockSet.Guarded tr x g)
    (hi : LockSet.accessAt tr i t1 x) (hj : LockSet.accessAt tr j t2 x) (hij : i < j) (hne : t1 ≠ t2) :
    ∃ k k', i < k ∧ k < k' ∧ k' < j ∧ tr[k]? = some (.rel t1 g) ∧ tr[k']? = some (.acq t2 g) :=
  LockSet.lockset_happens_before hw hg hi hj hij hne

/-- Generic: critical sections of one lock never overlap, so state touched only
    inside them evolves by whole sections, in the order of acquisition (a sequential order of the
    operations, given `operations_atomic`). -/
theorem sections_serial {tr : List LockSet.Ev} {g i j t1 t2 : Nat} (hw : LockSet.WellFormed tr)
    (hi : tr[i]? = some (.acq t1 g)) (hj : tr[j]? = some (.acq t2 g)) (hij : i < j) :
    ∃ k, i < k ∧ k < j ∧ tr[k]? = some (.rel t1 g) :=
  LockSet.sections_serial hw hi hj hij

end OutlineModel.Props.C19
