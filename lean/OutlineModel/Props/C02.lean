import OutlineModel.Proofs.SSStream
import OutlineModel.Proofs.TCP
import OutlineModel.Gen.Consts
/-
C02 — TCP relay delivers both byte streams intact, in order, with half-close.

Framing: Model/SSStream (the outline-sdk chunk writer/reader over an abstract AEAD satisfying
`open (seal n p) = some p`), theorems for ALL chunkings.  Relay logic: Model/TCP.handle (which
bytes reach the target, what the client can decrypt, FIN after data), tied to service/tcp.go by the
`tcp` campaign (real handler over loopback sockets, scripted chunkings and targets, byte-for-byte
and FIN-order oracles at both peers).  Kernel half-close semantics and io.Copy fast paths
(splice / ReadFrom / WriteTo selection in measuredConn) are observed by the campaign, not proved.
-/
namespace OutlineModel.Props.C02
open OutlineModel OutlineModel.SSStream OutlineModel.TCP OutlineModel.Socks

/-- For every correct AEAD and EVERY chunking (chunk sizes 0..16383, any number of
    chunks, empty chunks included) the reader delivers exactly the concatenation of the chunks, then
    EOF. -/
theorem decode_encode {a : AEAD} (hc : a.Correct) (saltSize : Nat) (salt : List UInt8) (hs : salt.length = saltSize)
    (chunks : List (List UInt8)) (hcs : ∀ c ∈ chunks, c.length ≤ 16383) :
    decode a saltSize (encode a salt chunks) = .ok chunks.flatten :=
  SSStream.decode_encode hc saltSize salt hs chunks hcs

/-- What is delivered depends only on the bytes written, not on how the
    client cut them into chunks (address alone, coalesced with data, split across chunks). -/
theorem chunking_independent {a : AEAD} (hc : a.Correct) (saltSize : Nat) (salt : List UInt8) (hs : salt.length = saltSize)
    (cs₁ cs₂ : List (List UInt8)) (h₁ : ∀ c ∈ cs₁, c.length ≤ 16383) (h₂ : ∀ c ∈ cs₂, c.length ≤ 16383)
    (hflat : cs₁.flatten = cs₂.flatten) :
    decode a saltSize (encode a salt cs₁) = decode a saltSize (encode a salt cs₂) :=
  SSStream.decode_encode_chunking_independent hc saltSize salt hs cs₁ cs₂ h₁ h₂ hflat

/-- `MultiReader(first 50 bytes, rest of the connection)`, modelled as concatenation, is the connection's byte
    string, so the bytes consumed by the key search are replayed.  This is `List.take_append_drop` and nothing
    more: `decode` plays no part, the statement says nothing about the reader. -/
theorem first_bytes_replayed (a : AEAD) (saltSize : Nat) (s : List UInt8) :
    decode a saltSize (multiReader (s.take Gen.bytesForKeyFinding) (s.drop Gen.bytesForKeyFinding)) = decode a saltSize s := by
  unfold multiReader; rw [List.take_append_drop]

/-- The writer never uses a nonce twice (`noncesUsed` counts up from 0, two nonces per chunk). -/
theorem nonces_never_reused (chunks : List (List UInt8)) : (noncesUsed chunks).Nodup := noncesUsed_nodup chunks

/-- A stream cut inside a chunk is an error after exactly the preceding chunks
    were delivered: nothing partial, nothing duplicated. -/
theorem truncated_is_error {a : AEAD} (hc : a.Correct) (saltSize : Nat) (salt : List UInt8) (hs : salt.length = saltSize)
    (init : List (List UInt8)) (last : List UInt8) (hinit : ∀ c ∈ init, c.length ≤ 16383) (hlast : last.length ≤ 16383)
    (k : Nat) (hlo : (encode a salt init).length < k) (hhi : k < (encode a salt (init ++ [last])).length) :
    ∃ why, decode a saltSize ((encode a salt (init ++ [last])).take k) = .error init.flatten why :=
  SSStream.truncated_is_error hc saltSize salt hs init last hinit hlast k hlo hhi

/-- If the plaintext chunks start with a complete address header (alone, coalesced with data, or followed
    by more chunks), the client authenticates and the dial succeeds, then the handler's effects contain the
    write to the target of exactly the bytes after the header — `first.drop addrLen ++ the later chunks` —
    with FIN after them, whatever the chunking of the data.  (That this is the only `toTarget` effect is read
    in `TCP.handle`, not stated.  Case: the address is complete within the first chunk; the split-address
    case is exercised by the campaign.) -/
theorem target_receives_exactly_data (c : Cfg) (st : Auth.AuthState) (raw : Nat) (ce : ClientEnd) (first : List UInt8)
    (ds : List (List UInt8)) (port : Nat) (valid : Nat → Bool) (srvSalt : CipherList.Entry → Bool)
    (hash : CipherList.Entry → UInt32) (greeting : Nat → List UInt8)
    (addr rest : List UInt8) (haddr : readAddr first = .ok (addr, rest))
    (hauth : (Auth.authenticate st (some 1) (decide (raw ≥ c.bytesForKeyFinding)) valid srvSalt hash).2.status = .ok) :
    Eff.toTarget (first.drop addr.length ++ ds.flatten) true ∈
      (handle c st { raw := raw, clientEnd := ce, chunks := Chunk.data first :: ds.map Chunk.data, dial := .ok port }
        valid srvSalt hash greeting).2 := by
  have hne : readAddr ([] : List UInt8) = .error .eof := rfl
  -- nothing is read before the first chunk: `readAddress` takes it in, finds the address complete, and stops
  have h1 : readAddress c [] c.saltSize (Chunk.data first :: ds.map Chunk.data) =
      .found addr.length first (ds.map Chunk.data) (c.saltSize + chunkWire c (Chunk.data first)) := by
    rw [readAddress, hne]
    cases ds.map Chunk.data <;> simp only [readAddress, List.nil_append, haddr]
  unfold handle
  simp only [hauth, h1, relayUp_data]
  simp

example : (relayUp [.data [1, 2], .data [], .data [3]]) = ([1, 2, 3], false) := by decide +kernel

end OutlineModel.Props.C02
