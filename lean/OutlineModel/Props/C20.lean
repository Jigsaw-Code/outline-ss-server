import OutlineModel.Proofs.TieIP
import OutlineModel.Model.IPInfo
import OutlineModel.Proofs.IP
import OutlineModel.Gen.MetricTable
import OutlineModel.Gen.Decisions
/-
C20 — Metrics never expose client addresses and label locations by class.

Classification: Model/IPInfo (GetIPInfoFromAddr / GetIPInfoFromIP), tied to ipinfo/ipinfo.go by the
`ipinfo` campaign (every address form × database behaviour, recording fake database).
Exposure: Gen/MetricTable — every collector with its label names and, for every label value
written anywhere, the provenance class of the expression (typed backward tracing through
parameters and call sites, regenerated on every run); the obligation is decided over the whole
table.  The `metrics` campaign scans the real exposition for every textual form of distinctive
client addresses and ports.
-/
namespace OutlineModel.Props.C20
open OutlineModel OutlineModel.IPInfo OutlineModel.IP

/-- The location label is decided by the class of the address alone, in this
    order: XA when it cannot be parsed; else empty when lookup is disabled; else XA for a nil IP (which only
    a direct caller of GetIPInfoFromIP can pass); else XL when the address is not global unicast; else XD
    on a database error; else ZZ when the database has no country; else the database's answer. -/
theorem classify_total_and_by_class (db : DB) (p : Parsed) :
    (fromAddr db p).label =
      match p with
      | .nilAddr => "XA" | .noHostPort => "XA" | .notIP => "XA"
      | .ip b =>
        match db with
        | .disabled => ""
        | .answers c => if b.isEmpty then "XA" else if !isGlobalUnicast b then "XL" else if c == "" then "ZZ" else c
        | .fails _ => if b.isEmpty then "XA" else if !isGlobalUnicast b then "XL" else "XD" := by
  cases p with
  | ip b => cases db <;> simp only [fromAddr, fromIP, apply_ite Result.label]
  | _ => rfl

/-- The database is consulted only for a parsed IP that is global unicast
    (`IP.isGlobalUnicast`, the predicate of C05) with lookup enabled — so never for loopback, link-local,
    multicast, unspecified, broadcast or unparseable addresses. -/
theorem local_never_consults_db (db : DB) (p : Parsed) (h : (fromAddr db p).dbCalls ≠ 0) :
    ∃ b, p = .ip b ∧ isGlobalUnicast b = true ∧ db ≠ .disabled := by
  cases p with
  | ip b =>
    refine ⟨b, rfl, ?_⟩
    cases db with
    | disabled => exact absurd rfl h
    | answers c | fails c =>
      simp only [fromAddr, fromIP] at h
      by_cases h1 : b.isEmpty <;> by_cases h2 : isGlobalUnicast b <;> simp [h1, h2] at h ⊢
  | _ => exact absurd rfl h

/-- IPv4 loopback (127.x), link-local (169.254.x) and 0.0.0.0 get XL from a database that would answer "US":
    three of the five disjuncts of `IP.isGlobalUnicast_v4` (multicast and broadcast are not stated here, nor
    the converse) -/
theorem xl_classes_v4 (a b c d : UInt8) (hl : a = 127 ∨ (a = 169 ∧ b = 254) ∨ (a = 0 ∧ b = 0 ∧ c = 0 ∧ d = 0)) :
    (fromAddr (.answers "US") (.ip [a, b, c, d])).label = "XL" := by
  have hng : isGlobalUnicast [a, b, c, d] = false := by
    rw [← Bool.not_eq_true, isGlobalUnicast_v4]
    refine fun hn => hn ?_
    rcases hl with rfl | ⟨rfl, rfl⟩ | ⟨rfl, rfl, rfl, rfl⟩
    · exact .inl rfl
    · exact .inr (.inr (.inl ⟨rfl, rfl⟩))
    · exact .inr (.inl ⟨rfl, rfl, rfl, rfl⟩)
  simp [fromAddr, fromIP, hng]

/-- The connection / data-byte collectors (GetIPInfoFromAddr on the parsed
    address) and the tunnel-time collector (GetIPInfoFromIP on the same IP bytes, zone dropped by
    both) give one client address one label: in the model, the definition of `fromAddr` on a parsed IP. -/
theorem one_label_per_address (db : DB) (b : List UInt8) : (fromAddr db (.ip b)).label = (fromIP db b).label := rfl

/-- Over the whole generated table, every label value written to any
    collector has a provenance class from the allowed set (constants, status constants, access-key
    id, country / ASN / AS organisation, the server's own listen address, version), so none is
    `clientAddr` or `unknown`; every label name is in the fixed set; and the extractor could classify
    every label-writing call (`complete`).  The allowed sets are emitted by the extractor too. -/
theorem labels_never_from_client_addr :
    (∀ s ∈ Gen.MetricTable.labelSites, ∀ c ∈ s.2.2, c ∈ Gen.MetricTable.allowedClasses) ∧
    (∀ m ∈ Gen.MetricTable.collectors, ∀ l ∈ m.2, l ∈ Gen.MetricTable.allowedLabelNames) ∧
    Gen.MetricTable.complete = true := by decide +kernel

/-- Every Add/Observe/Set argument of a Prometheus metric has class `numeric`:
    a numeric type and an expression whose text names no address, port or remote
    (extract/metrictable.go) — in the source: byte counts, durations, unit increments, gauge readings. -/
theorem values_from_counts_only : ∀ s ∈ Gen.MetricTable.valueSites, s.2 ∈ Gen.MetricTable.allowedValueClasses := by decide +kernel


/-- The four label constants of ipinfo/ipinfo.go are the ones `Model/IPInfo` uses
    (regenerated table).  The ORDER of the guards of GetIPInfoFromAddr / GetIPInfoFromIP and the position of the single
    database call are proved about the translated functions (`code_getIPInfoFromIP`, `code_getIPInfoFromAddr`). -/
theorem label_constants_as_modelled :
    Gen.Decisions.ipInfoLabels = [("errParseAddr", "XA"), ("localLocation", "XL"), ("errDbLookupError", "XD"), ("unknownLocation", "ZZ")] := by decide +kernel

/-- The `error` label of the probe histogram takes one of three literals;
    no return of drainErrToString is computed from the error (which would carry both endpoints). -/
theorem probe_label_values_fixed :
    Gen.Decisions.drainResults = ["eof", "other", "timeout"] ∧ Gen.Decisions.drainReturnsNonLiteral = false := by decide +kernel


/-! `Gen.Code.GetIPInfoFromIP` and `Gen.Code.GetIPInfoFromAddr` are translated from ipinfo/ipinfo.go on every run
(extract/golean.go); the database is a parameter (any function), `IsGlobalUnicast` is Go's standard library: the translation
calls `IP.isGlobalUnicast` of Model/IP, which the `ip` campaign validates. -/

/-- the translated `GetIPInfoFromIP` never panics; its country label and error flag are the model's, for every
    database behaviour (`Tie.IP.dbOf` reads the database parameter as the model's `DB`) and every byte string -/
theorem code_getIPInfoFromIP (get : GoRT.Opaque "ipinfo.IPInfoMap" → List UInt8 → Gen.Code.IPInfo × Option String)
    (ip2info : GoRT.Opaque "ipinfo.IPInfoMap") (ip : List UInt8) :
    (Gen.Code.GetIPInfoFromIP get ip2info ip).map (fun r => (r.1.CountryCode, r.2.isSome)) =
      some ((fromIP (Tie.IP.dbOf get ip2info ip) ip).label, (fromIP (Tie.IP.dbOf get ip2info ip) ip).isErr) :=
  Tie.IP.getIPInfoFromIP_tie get ip2info ip


/-- The translated `GetIPInfoFromAddr` (what the connection metrics call with the client
    address): as long as `strings.IndexByte` answers an offset inside the string, it never panics and the label and error
    flag are the model's `fromAddr` of the parse outcome — XA for a nil address, a host:port that does not split, or a
    host that is no IP literal AFTER an IPv6 zone has been dropped (the step of Go commit ecd4461; without it a zoned
    address is XA); otherwise the class of the IP, decided as in `code_getIPInfoFromIP`.  `net.SplitHostPort`,
    `net.ParseIP`, `strings.IndexByte`, `addr.String()` and the database are parameters. -/
theorem code_getIPInfoFromAddr (str : GoRT.Opaque "net.Addr" → String)
    (get : GoRT.Opaque "ipinfo.IPInfoMap" → List UInt8 → Gen.Code.IPInfo × Option String)
    (idx : String → UInt8 → Int) (parseIP : String → List UInt8) (split : String → String × String × Option String)
    (ip2info : GoRT.Opaque "ipinfo.IPInfoMap") (addr : GoRT.Opaque "net.Addr") (hidx : ∀ h, idx h 37 ≤ GoRT.strLen h) :
    (Gen.Code.GetIPInfoFromAddr str get idx parseIP split ip2info addr).map (fun r => (r.1.CountryCode, r.2.isSome)) =
      some ((fromAddr (Tie.IP.dbOf get ip2info (parseIP (Tie.IP.hostOf idx (split (str addr)).1))) (Tie.IP.parsedOf str idx parseIP split addr)).label,
            (fromAddr (Tie.IP.dbOf get ip2info (parseIP (Tie.IP.hostOf idx (split (str addr)).1))) (Tie.IP.parsedOf str idx parseIP split addr)).isErr) :=
  Tie.IP.getIPInfoFromAddr_tie str get idx parseIP split ip2info addr hidx

end OutlineModel.Props.C20
