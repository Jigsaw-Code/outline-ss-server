import OutlineModel.Proofs.TieDedup
import OutlineModel.Proofs.ConfigOwner
import OutlineModel.Gen.Wiring
/-
C09 — A key works exactly on the listeners its configuration binds it to.

Model: Model/Config.lean.  A configuration is turned into a plan of acquisitions (legacy ports first —
"tcp/:p" and "udp/:p" with the port's keys in file order, not de-duplicated; then the services in
order, every listener of a service with the service's key list de-duplicated on the raw
(cipher string, secret) pair); a successful load serves exactly the plan; a client holding
(cipher identity, secret) on a listener is attributed to the first entry of that listener's key list
with that cipher and secret (the key search and its last-used reordering, which never changes
which id of a key group answers: C01 `first_configured_wins`).  The specification side is independent of the
plan: `ownerKeys` (which raw key list owns a listener key) and `firstMatch` (first key of a raw list
with that cipher identity and secret).  Tied to the code by the `config` campaign (real server process,
real clients over TCP and UDP probing (listener, key) pairs — own keys, other services' keys, removed
keys, never-configured keys — attribution read from the ServiceMetrics calls) and wiring facts.
-/
namespace OutlineModel.Props.C09
open OutlineModel OutlineModel.Config

/-- After ANY successful load (whatever was serving before), for EVERY listener
    key and EVERY client key, the id the server attributes is: none if no legacy port / service owns
    the listener, else the first key of the owner's list with that cipher and secret — none if there
    is none.  Both configuration formats and their mixture. -/
theorem serves_exactly_configured (canon : String → Option Nat) (addrOK : String → Bool) (s : Server) (c : Cfg)
    (fault : Fault) (hok : (load canon addrOK s c fault).2.1 = true) (lk : String) (ck : ClientKey) :
    authOn (load canon addrOK s c fault).1.cur lk ck =
      match ownerKeys c lk with
      | none => none
      | some keys => firstMatch canon keys ck :=
  load_serves_exactly_configured canon addrOK s c fault hok lk ck

/-- The "if and only if" of the property: a client authenticates on a
    listener iff the owner's key list contains a key with its cipher and secret. -/
theorem authenticates_iff_in_owner (canon : String → Option Nat) (addrOK : String → Bool) (s : Server) (c : Cfg)
    (fault : Fault) (hok : (load canon addrOK s c fault).2.1 = true) (lk : String) (ck : ClientKey) :
    (authOn (load canon addrOK s c fault).1.cur lk ck).isSome = true ↔
      ∃ keys, ownerKeys c lk = some keys ∧ ∃ k ∈ keys, canon k.cipher = some ck.1 ∧ k.secret = ck.2 := by
  rw [serves_exactly_configured canon addrOK s c fault hok lk ck]
  cases ownerKeys c lk with
  | none => simp
  | some keys => simp only [firstMatch_isSome, Option.some.injEq, exists_eq_left']

/-- In a configuration that passes Validate (listener keys pairwise distinct; and
    no service listener is spelled like a legacy port, which Validate guarantees by demanding an IP
    host) the owner of a service's listener is that service: keys of another service authenticate
    there only if that service lists the same cipher and secret itself. -/
theorem own_service_only (canon : String → Option Nat) (addrOK : String → Bool) (srv : Server) (c : Cfg) (fault : Fault)
    (hok : (load canon addrOK srv c fault).2.1 = true)
    (hleg : ∀ p ∈ legacyPorts c.legacy, ∀ s ∈ c.services, ∀ l ∈ s.listeners,
      lkey l ≠ s!"tcp/:{p}" ∧ lkey l ≠ s!"udp/:{p}")
    (s : Svc) (hs : s ∈ c.services) (l : Listener) (hl : l ∈ s.listeners) (ck : ClientKey) :
    authOn (load canon addrOK srv c fault).1.cur (lkey l) ck = firstMatch canon s.keys ck := by
  rw [serves_exactly_configured canon addrOK srv c fault hok, owner_is_own_service c
    (validate_nodup addrOK c (load_ok_valid canon addrOK srv c fault hok).1) hleg s hs l hl]

/-- With the same cipher and secret listed more than once in a raw key list (same or different spelling of the
    cipher, same or different id) the FIRST id wins; that the de-duplicated list answers alike is
    `dedup_preserves_attribution`. -/
theorem duplicates_first_id (canon : String → Option Nat) (pre post : List Key) (k : Key) (ck : ClientKey)
    (hk : canon k.cipher = some ck.1 ∧ k.secret = ck.2)
    (hpre : ∀ k' ∈ pre, ¬ (canon k'.cipher = some ck.1 ∧ k'.secret = ck.2)) :
    firstMatch canon (pre ++ k :: post) ck = some k.id := by
  induction pre with
  | nil => rw [List.nil_append, firstMatch_cons, if_pos hk]
  | cons k' pre ih =>
    rw [List.cons_append, firstMatch_cons, if_neg (hpre k' List.mem_cons_self)]
    exact ih fun k'' h => hpre k'' (List.mem_cons_of_mem _ h)

/-- the de-duplicated list the service really hands to its listeners answers like the raw list -/
theorem dedup_preserves_attribution (canon : String → Option Nat) (keys : List Key) (ks : List (String × ClientKey))
    (h : dedupKeys canon keys = some ks) (ck : ClientKey) :
    (ks.find? (·.2 == ck)).map (·.1) = firstMatch canon keys ck :=
  dedupKeys_find canon keys ks h ck

/-- Each service's listeners are served by the ShadowsocksService built from that service's
    own keys; every listener goes through the generation's set. -/
theorem wiring : Gen.Wiring.serviceListenersServeOwnKeys = true ∧ Gen.Wiring.generationListenersInOneSet = true := by decide +kernel

/-! on the example configuration `ownCfg` of Proofs/ConfigOwner -/
example : (load ownCanon exAddrOK Server.init ownCfg .none).2.1 = true := by decide +kernel
example : authOn ownSrv.cur "tcp/:9000" (0, "s2") = none ∧ authOn ownSrv.cur "tcp/:9001" (0, "s2") = some "b" := by decide +kernel
example : authOn ownSrv.cur "tcp/:9000" (1, "sh") = some "shared1" ∧ authOn ownSrv.cur "tcp/:9001" (1, "sh") = some "shared2" := by decide +kernel
example : authOn ownSrv.cur "tcp/:9000" (0, "s1") = some "a" ∧ authOn ownSrv.cur "udp/:9100" (0, "ls") = some "l1" := by decide +kernel


/-! The per-service key list, about the code itself.
`Gen.Code.newCipherListFromConfig` is TRANSLATED from cmd/outline-ss-server/main.go on every run (extract/golean.go), together
with `MakeCipherEntry` which it calls; `shadowsocks.NewEncryptionKey`, `service.NewCipherList` and the salt generators are
parameters, the `Update` call on the new key list is in the function's effect log. -/

/-- The translated function never panics; it installs, with ONE `Update`, the entries of the
    first occurrence of each raw (cipher name, secret) pair in file order, or refuses the whole service at the first key that
    cannot be created; and when key creation fails exactly for the cipher names `canon` rejects, the ids installed are the
    model's `dedupKeys` (the first configured id wins for a repeated pair) -/
theorem code_key_list_of_a_service
    (saltSize : GoRT.Opaque "shadowsocks.EncryptionKey" → Int) (newList : GoRT.Opaque "service.CipherList")
    (newKey : String → String → GoRT.Opaque "shadowsocks.EncryptionKey" × Option String)
    (newGen : String → GoRT.Opaque "service.ServerSaltGenerator") (rnd : GoRT.Opaque "service.ServerSaltGenerator")
    (canon : String → Option Nat) (hcanon : ∀ c s, (newKey c s).2 = none ↔ (canon c).isSome = true)
    (config : Gen.Code.ServiceConfig) :
    Gen.Code.newCipherListFromConfig saltSize newList newKey newGen rnd config =
      some (match Tie.Dedup.scan saltSize newKey newGen rnd [] [] config.Keys with
        | none => (⟨0⟩, some "failed to create encyption key for key %v: %w", [])
        | some l => (newList, none, [Tie.Dedup.updateEff newList l])) ∧
    (Tie.Dedup.scan saltSize newKey newGen rnd [] [] config.Keys).map (fun l => l.map (·.Value.ID)) =
      (dedupKeys canon (config.Keys.map Tie.Dedup.absK)).map (fun l => l.map (·.1)) := by
  refine ⟨Tie.Dedup.newCipherList_eq saltSize newList newKey newGen rnd config, ?_⟩
  have h := Tie.Dedup.scan_dedup saltSize newKey newGen rnd canon hcanon config.Keys [] []
  simpa [dedupKeys] using h

end OutlineModel.Props.C09
