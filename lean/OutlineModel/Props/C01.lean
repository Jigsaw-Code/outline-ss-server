import OutlineModel.Proofs.TieCipherList
import OutlineModel.Proofs.TieFindKey
import OutlineModel.Proofs.TieAuth
import OutlineModel.Proofs.CipherList
import OutlineModel.Proofs.FirstWins
import OutlineModel.Proofs.Auth
import OutlineModel.Gen.Consts
import OutlineModel.Gen.Ciphers
/-
C01 — TCP access-key authentication is sound and complete for every key list.

Models: Model/CipherList (snapshot / trial decryption / mark-used / update) and Model/Auth
(NewShadowsocksStreamAuthenticator), tied to service/cipher_list.go and service/tcp.go by the
`tcpauth` campaign (real authenticator, in-memory connections, spec-level cryptography) and the
`tcp` campaign (real handler over loopback).  `valid k` = "the first length block opens under key
k" is the cryptographic contract; `KeySeparation` = a stream sealed under one key opens under no other.
-/
namespace OutlineModel.Props.C01
open OutlineModel OutlineModel.CipherList OutlineModel.Auth

/-- The per-connection snapshot is a permutation of the list: nothing dropped, nothing
    duplicated, for any list and any client IP. -/
theorem snapshot_is_perm (l : List Entry) (ip : Option Nat) : (snapshot l ip).Perm l := snapshot_perm l ip

/-- The key search fails iff NO configured key opens the header. -/
theorem find_none_iff (valid : Nat → Bool) (l : List Entry) (ip : Option Nat) :
    (lookup l ip valid).2 = none ↔ ∀ e ∈ l, valid e.key = false := lookup_none_iff

/-- What the search returns is a configured entry whose key opens the header. -/
theorem find_sound (valid : Nat → Bool) (l : List Entry) (ip : Option Nat) (e : Entry) (i : Nat)
    (h : (lookup l ip valid).2 = some (e, i)) : e ∈ l ∧ valid e.key = true := findEntry_sound (lookup_found h)

/-- If some configured key opens the header, the search succeeds — whatever the
    list order, the cipher mix, the most-recently-used state or the client IP. -/
theorem find_complete (valid : Nat → Bool) (l : List Entry) (ip : Option Nat) (e : Entry) (he : e ∈ l)
    (hv : valid e.key = true) : ∃ r, (lookup l ip valid).2 = some r :=
  Option.ne_none_iff_exists'.1 fun h => Bool.eq_false_iff.1 (lookup_none_iff.1 h e he) hv

def RefsNodup (l : List Entry) : Prop := (l.map (·.ref)).Nodup

/-- histories in which every replacement list has distinct element identities (`list.New` +
    `PushBack` of fresh elements) -/
def UpdatesFresh : List CipherList.Op → Prop
  | [] => True
  | .update src :: os => RefsNodup src ∧ UpdatesFresh os
  | _ :: os => UpdatesFresh os

def lastConfigured (l : List Entry) : List CipherList.Op → List Entry
  | [] => l
  | .update src :: os => lastConfigured src os
  | _ :: os => lastConfigured l os

/-- After any history of lookups, usage markings (fresh or stale, from any interleaving of concurrent
    connections — each is one critical section of the RWMutex) and list replacements (each by a list of
    distinct elements: `UpdatesFresh`), the configured (id, key) pairs in the list are exactly those of the
    most recent replacement: no key is lost, duplicated or altered by the MRU / last-client-IP bookkeeping. -/
theorem keys_invariant : ∀ (ops : List CipherList.Op) (l : List Entry), RefsNodup l → UpdatesFresh ops →
    ((CipherList.run l ops).map cfg).Perm ((lastConfigured l ops).map cfg) ∧ RefsNodup (CipherList.run l ops) := by
  intro ops
  -- generalised to a second list with the same (id, key) pairs, so that a lookup or a marking only moves the first
  suffices h : ∀ l l' : List Entry, (l.map cfg).Perm (l'.map cfg) → RefsNodup l → UpdatesFresh ops →
      ((CipherList.run l ops).map cfg).Perm ((lastConfigured l' ops).map cfg) ∧ RefsNodup (CipherList.run l ops) from
    fun l => h l l (List.Perm.refl _)
  induction ops with
  | nil => exact fun _ _ hp hl _ => ⟨hp, hl⟩
  | cons o os ih =>
    intro l l' hp hl hu
    cases o with
    | lookup ip vs =>
      exact ih _ l' ((lookup_map_perm cfg (fun _ _ => rfl) hl ip _).trans hp)
        ((lookup_map_perm (·.ref) (fun _ _ => rfl) hl ip _).nodup_iff.2 hl) hu
    | mark r ip =>
      exact ih _ l' ((markUsed_map_perm cfg (fun _ _ => rfl) hl r ip).trans hp)
        ((markUsed_map_perm (·.ref) (fun _ _ => rfl) hl r ip).nodup_iff.2 hl) hu
    | update src => exact ih src src (List.Perm.refl _) hu.1 hu.2

/-- When several entries are configured with the same (cipher, secret): in every state reachable from a
    freshly configured list by lookups from any client IPs (and by replacements with freshly configured
    lists) a lookup never returns a shadowed entry (one behind another entry with the same key in the
    current list), and every shadowed entry still has an empty `lastIP`.  With
    `key_group_order_preserved` this is what "attributed to the first ID" rests on for legacy-format
    lists, which are not de-duplicated.
    A lookup here is one step, snapshot to mark-used: `OnlyLookups` excludes the deferred `MarkUsedByClientIP` of a
    concurrent lookup (`.mark`), and the last example of Proofs/FirstWins shows that such a mark of a
    shadowed entry breaks the conclusion. -/
theorem first_configured_wins {l0 : List Entry} {ops : List CipherList.Op} (hfresh : Fresh l0) (hops : OnlyLookups ops) :
    FirstWinsInv (CipherList.run l0 ops) ∧
    ∀ ip valid e i, (lookup (CipherList.run l0 ops) ip valid).2 = some (e, i) → ¬ Shadowed (CipherList.run l0 ops) e :=
  CipherList.first_configured_wins hfresh hops

/-- the configured relative order inside a key group is never changed by lookups -/
theorem key_group_order_preserved {l0 : List Entry} {ops : List CipherList.Op} {pre mid post : List Entry} {a b : Entry}
    (hfresh : Fresh l0) (hops : ∀ o ∈ ops, IsLookup o) (hl0 : l0 = pre ++ a :: (mid ++ b :: post)) (hk : a.key = b.key) :
    ∃ pre' mid' post' a' b', CipherList.run l0 ops = pre' ++ a' :: (mid' ++ b' :: post') ∧
      a'.ref = a.ref ∧ b'.ref = b.ref ∧ a'.key = b'.key :=
  CipherList.key_order_preserved hfresh hops hl0 hk

/-- a stream sealed under key `k0` opens under `k0` and under no other key -/
def KeySeparation (valid : Nat → Bool) (k0 : Nat) : Prop := ∀ k, valid k = true ↔ k = k0

/-- Whenever the authenticator does not answer ERR_CIPHER, the id it reports is
    the id of a configured entry whose key opens the stream; under key separation that entry is
    configured with exactly the key the client used. -/
theorem auth_attribution (st : AuthState) (ip : Option Nat) (enough : Bool) (valid : Nat → Bool)
    (srvSalt : Entry → Bool) (hash : Entry → UInt32)
    (h : (authenticate st ip enough valid srvSalt hash).2.status ≠ .errCipher) :
    ∃ e ∈ st.list, valid e.key = true ∧ (authenticate st ip enough valid srvSalt hash).2.id = e.id ∧
      (∀ k0, KeySeparation valid k0 → e.key = k0) := by
  cases enough with
  | false => rw [authenticate_short] at h; exact absurd rfl h
  | true =>
    cases hl : (lookup st.list ip valid).2 with
    | none => rw [authenticate_none hl] at h; exact absurd rfl h
    | some ei =>
      obtain ⟨e, i⟩ := ei
      have hf := findEntry_sound (lookup_found hl)
      refine ⟨e, hf.1, hf.2, ?_, fun k0 hk => (hk e.key).1 hf.2⟩
      rw [authenticate_some hl]

/-- A client that delivers the 50 bytes and whose stream opens under some
    configured key is never answered ERR_CIPHER (it is authenticated unless it is a replay). -/
theorem auth_complete (st : AuthState) (ip : Option Nat) (valid : Nat → Bool)
    (srvSalt : Entry → Bool) (hash : Entry → UInt32) (e : Entry) (he : e ∈ st.list) (hv : valid e.key = true) :
    (authenticate st ip true valid srvSalt hash).2.status ≠ .errCipher := by
  obtain ⟨⟨e', i⟩, hr⟩ := find_complete valid st.list ip e he hv
  rw [authenticate_some hr]
  -- whichever way the server-salt test and the replay cache answer, the status is one of the other three
  cases srvSalt e' <;> cases (Replay.addNilable st.cache (hash e')).2 <;> exact nofun

/-- Fewer than 50 bytes, or 50 bytes that no configured key opens, always give
    ERR_CIPHER with the empty id, and leave the replay cache untouched. -/
theorem unauth_is_err_cipher (st : AuthState) (ip : Option Nat) (enough : Bool) (valid : Nat → Bool)
    (srvSalt : Entry → Bool) (hash : Entry → UInt32)
    (h : enough = false ∨ ∀ e ∈ st.list, valid e.key = false) :
    (authenticate st ip enough valid srvSalt hash).2.status = .errCipher ∧
    (authenticate st ip enough valid srvSalt hash).2.id = "" ∧
    (authenticate st ip enough valid srvSalt hash).1.cache = st.cache := by
  cases enough with
  | false => rw [authenticate_short]; exact ⟨rfl, rfl, rfl⟩
  | true =>
    rw [authenticate_none (lookup_none_iff.2 (h.resolve_left nofun))]
    exact ⟨rfl, rfl, rfl⟩

/-- For every cipher of the generated table the bytes the key search needs
    (salt + 2 + tag) fit in the `bytesForKeyFinding` bytes that are read, and 50 bytes never reach
    past the first payload tag (so exactly the length block is tested). -/
theorem header_fits : ∀ c ∈ Gen.ciphers, c.saltSize + 2 + c.tagSize ≤ Gen.bytesForKeyFinding ∧
    Gen.bytesForKeyFinding ≤ c.saltSize + 2 + 2 * c.tagSize := by decide +kernel

example : (lookup [{ ref := 1, id := "a", key := 0, lastIP := some 7 }, { ref := 2, id := "b", key := 1, lastIP := none }]
    (some 7) (fun k => k == 1)).2 = some ({ ref := 2, id := "b", key := 1, lastIP := none }, 1) := by decide +kernel


/-! The same statements about the code itself.
`Gen.Code.matchesIP`, `Gen.Code.cipherList.SnapshotForClientIP / MarkUsedByClientIP / Update` (service/cipher_list.go) and
`Gen.Code.findEntry` (service/tcp.go) are TRANSLATED from the source on every run (extract/golean.go); container/list is the
prelude's (elements with an identity, front first); `shadowsocks.Unpack` and the key's `SaltSize` / `TagSize` are
parameters (any functions). -/

/-- the translated `SnapshotForClientIP` never panics (every array store is in range), leaves the list alone and returns
    the model's snapshot — hence a permutation of the configured entries: nothing dropped, nothing invented -/
theorem code_snapshot (cl : Gen.Code.cipherList) (ip : GoRT.Opaque "netip.Addr") :
    ∃ snap, Gen.Code.cipherList.SnapshotForClientIP cl ip = some (cl, snap) ∧
      snap.map Tie.CipherList.absEntry = snapshot (cl.list.map Tie.CipherList.absEntry) (Tie.CipherList.absIP ip) ∧
      (snap.map Tie.CipherList.absEntry).Perm (cl.list.map Tie.CipherList.absEntry) := by
  obtain ⟨h1, h2⟩ := Tie.CipherList.snapshot_tie cl ip
  exact ⟨_, h1, h2, by rw [h2]; exact snapshot_perm _ _⟩

/-- the translated `MarkUsedByClientIP` is the model's `markUsed` (move-to-front of a current element, no-op on the list for
    a stale one, client IP recorded) and `Update` replaces the list -/
theorem code_markUsed_update (cl : Gen.Code.cipherList) (e : GoRT.ListElem Gen.Code.CipherEntry) (ip : GoRT.Opaque "netip.Addr")
    (src : List (GoRT.ListElem Gen.Code.CipherEntry))
    (hid : ∀ x ∈ cl.list, x.id = e.id → x.Value.ID = e.Value.ID ∧ x.Value.CryptoKey = e.Value.CryptoKey) :
    (∃ cl', Gen.Code.cipherList.MarkUsedByClientIP cl e ip = some cl' ∧
        cl'.list.map Tie.CipherList.absEntry = markUsed (cl.list.map Tie.CipherList.absEntry) e.id (Tie.CipherList.absIP ip)) ∧
    Gen.Code.cipherList.Update cl src = some { cl with list := src } := by
  obtain ⟨cl', h1, _, h3⟩ := Tie.CipherList.markUsed_tie cl e ip hid
  exact ⟨⟨cl', h1, h3⟩, Tie.CipherList.update_tie cl src⟩

/-- The translated trial-decryption loop of tcp.go, for every snapshot: if the bytes read for the key
    search cover salt+2+tag of every key tried (what `header_fits` says of the generated cipher table and
    `bytesForKeyFinding`), it never panics and returns the FIRST element whose key opens the header, (nil, nil) if none:
    sound and complete for every key list and order -/
theorem code_findEntry (saltSize tagSize : GoRT.Opaque "shadowsocks.EncryptionKey" → Int)
    (unpack : List UInt8 → List UInt8 → GoRT.Opaque "shadowsocks.EncryptionKey" → List UInt8 × Option String)
    (firstBytes : List UInt8) (ciphers : List (GoRT.ListElem Gen.Code.CipherEntry)) (l : GoRT.Opaque "slog.Logger")
    (hfits : ∀ elt ∈ ciphers, 0 ≤ saltSize elt.Value.CryptoKey + 2 + tagSize elt.Value.CryptoKey ∧
      saltSize elt.Value.CryptoKey + 2 + tagSize elt.Value.CryptoKey ≤ (firstBytes.length : Int)) :
    Gen.Code.findEntry saltSize tagSize unpack firstBytes ciphers l =
      some (match ciphers.find? (fun elt => Tie.CipherList.opens saltSize tagSize unpack firstBytes elt.Value.CryptoKey) with
            | some elt => (some elt.Value, some elt)
            | none => (none, none)) :=
  Tie.CipherList.findEntry_tie saltSize tagSize unpack firstBytes ciphers l hfits

/-- ... and what it finds is the model's `findEntry` over the abstracted snapshot (validity is a function of the key) -/
theorem code_findEntry_is_model (ciphers : List (GoRT.ListElem Gen.Code.CipherEntry)) (valid : Nat → Bool) :
    (ciphers.find? (fun elt => valid elt.Value.CryptoKey.val)).map Tie.CipherList.absEntry =
      findEntry valid (ciphers.map Tie.CipherList.absEntry) :=
  Tie.CipherList.find_abs ciphers valid


/-- The TCP key search as the code performs it — the translated `SnapshotForClientIP`
    followed by the translated `findEntry` on that snapshot — for EVERY key list, client IP and usage history: it never panics
    (given that the bytes read cover salt+2+tag of every configured key), it fails exactly when NO configured key opens the
    header, and what it returns is an element of the configured list whose key opens the header, together with that element's
    own entry. -/
theorem code_key_search_sound_and_complete
    (saltSize tagSize : GoRT.Opaque "shadowsocks.EncryptionKey" → Int)
    (unpack : List UInt8 → List UInt8 → GoRT.Opaque "shadowsocks.EncryptionKey" → List UInt8 × Option String)
    (firstBytes : List UInt8) (cl : Gen.Code.cipherList) (ip : GoRT.Opaque "netip.Addr") (l : GoRT.Opaque "slog.Logger")
    (hfits : ∀ elt ∈ cl.list, 0 ≤ saltSize elt.Value.CryptoKey + 2 + tagSize elt.Value.CryptoKey ∧
      saltSize elt.Value.CryptoKey + 2 + tagSize elt.Value.CryptoKey ≤ (firstBytes.length : Int)) :
    ∃ snap r, Gen.Code.cipherList.SnapshotForClientIP cl ip = some (cl, snap) ∧
      Gen.Code.findEntry saltSize tagSize unpack firstBytes snap l = some r ∧
      (r = (none, none) ↔ ∀ elt ∈ cl.list, Tie.CipherList.opens saltSize tagSize unpack firstBytes elt.Value.CryptoKey = false) ∧
      (∀ entry elt, r = (some entry, some elt) →
        elt ∈ cl.list ∧ Tie.CipherList.opens saltSize tagSize unpack firstBytes elt.Value.CryptoKey = true ∧ entry = elt.Value) := by
  have hmem := Tie.CipherList.mem_snapOf cl.list ip
  refine ⟨_, _, (Tie.CipherList.snapshot_tie cl ip).1,
    Tie.CipherList.findEntry_tie saltSize tagSize unpack firstBytes (Tie.CipherList.snapOf cl.list ip) l
      (fun elt h => hfits elt ((hmem elt).1 h)), ?_⟩
  cases hfind : (Tie.CipherList.snapOf cl.list ip).find? (fun elt => Tie.CipherList.opens saltSize tagSize unpack firstBytes elt.Value.CryptoKey) with
  | none =>
    exact ⟨iff_of_true rfl fun elt helt => Bool.eq_false_iff.2 (List.find?_eq_none.1 hfind elt ((hmem elt).2 helt)), nofun⟩
  | some e =>
    have hm := (hmem e).1 (List.mem_of_find?_eq_some hfind)
    have ho := List.find?_some hfind
    refine ⟨iff_of_false nofun fun hall => ?_, ?_⟩
    · rw [hall e hm] at ho; cases ho
    · rintro entry elt ⟨⟩; exact ⟨hm, ho, rfl⟩

section FindAccessKey
variable (snapshot : GoRT.Opaque "service.CipherList" → GoRT.Opaque "netip.Addr" → List (GoRT.ListElem Gen.Code.CipherEntry))
  (saltSize tagSize : GoRT.Opaque "shadowsocks.EncryptionKey" → Int)
  (multi : GoRT.Opaque "bytes.Reader" → GoRT.Opaque "io.Reader" → GoRT.Opaque "io.Reader") (newBytesReader : List UInt8 → GoRT.Opaque "bytes.Reader")
  (since : Int → Int) (unpack : List UInt8 → List UInt8 → GoRT.Opaque "shadowsocks.EncryptionKey" → List UInt8 × Option String)
  (readFull : GoRT.Opaque "io.Reader" → Int → List UInt8 × Int × Option String) (now : Int)
  (rd : GoRT.Opaque "io.Reader") (ip : GoRT.Opaque "netip.Addr") (cl : GoRT.Opaque "service.CipherList") (l : GoRT.Opaque "slog.Logger")

/-- The translated `findAccessKey` (service/tcp.go), for every key-list snapshot, reader behaviour, `Unpack`, and
    cipher sizes that fit the 50 bytes (the generated cipher table does): never panics; returns an entry exactly when
    the 50 bytes were read and some key of the snapshot opens them — and then the FIRST such entry in snapshot order,
    with the first `saltSize` bytes as the salt and a reader that replays the bytes read; it marks exactly that element
    as used (one call on the key list) and marks nothing when it finds none. -/
theorem code_findAccessKey
    (hlen : (readFull rd 50).1.length = 50)
    (hfits : ∀ elt ∈ snapshot cl ip, 0 ≤ saltSize elt.Value.CryptoKey ∧ 0 ≤ tagSize elt.Value.CryptoKey ∧
      saltSize elt.Value.CryptoKey + 2 + tagSize elt.Value.CryptoKey ≤ 50) :
    ∃ ent r salt t err log,
      Gen.Code.findAccessKey snapshot saltSize tagSize multi newBytesReader since unpack readFull now rd ip cl l =
        some (ent, r, salt, t, err, log) ∧
      (match ent with
       | none => err ≠ none ∧ log = [] ∧ r = rd ∧
           ((readFull rd 50).2.2 ≠ none ∨
            ∀ elt ∈ snapshot cl ip, Tie.CipherList.opens saltSize tagSize unpack (readFull rd 50).1 elt.Value.CryptoKey = false)
       | some e => err = none ∧ (readFull rd 50).2.2 = none ∧
           ∃ elt, (snapshot cl ip).find? (fun x => Tie.CipherList.opens saltSize tagSize unpack (readFull rd 50).1 x.Value.CryptoKey) = some elt ∧
             e = elt.Value ∧ log = [Tie.FindKey.markEff cl elt.id ip] ∧
             salt = (readFull rd 50).1.take (saltSize e.CryptoKey).toNat ∧
             r = multi (newBytesReader (readFull rd 50).1) rd) := by
  rw [Tie.FindKey.findAccessKey_tie snapshot saltSize tagSize multi newBytesReader since unpack readFull now rd ip cl l hlen hfits]
  by_cases herr : (readFull rd 50).2.2 = none
  · cases hf : (snapshot cl ip).find? (fun x => Tie.CipherList.opens saltSize tagSize unpack (readFull rd 50).1 x.Value.CryptoKey) with
    | none =>
      rw [Tie.FindKey.outcome_not_found (h := herr) (hf := hf) ..]
      exact ⟨none, _, _, _, _, _, rfl, nofun, rfl, rfl,
        .inr fun elt helt => Bool.eq_false_iff.2 (List.find?_eq_none.1 hf elt helt)⟩
    | some elt =>
      rw [Tie.FindKey.outcome_found (h := herr) (hf := hf) ..]
      exact ⟨some elt.Value, _, _, _, _, _, rfl, rfl, herr, elt, rfl, rfl, rfl, rfl, rfl⟩
  · rw [Tie.FindKey.outcome_read_error (h := herr) ..]
    exact ⟨none, _, _, _, _, _, rfl, nofun, rfl, rfl, .inl herr⟩

/-- The translated authenticator run on what the translated `findAccessKey` returns
    (the composition the server executes), for every snapshot, reader, `Unpack`, salt generator and replay cache: it
    never panics, and its status is ERR_CIPHER exactly when no key of the snapshot opens the first 50 bytes (or they
    could not be read); otherwise the key id it reports is that of the FIRST entry of the snapshot that opens them, and
    the status is ERR_REPLAY_SERVER if that entry's salt generator recognises the salt, else the replay cache's verdict
    (model `add`) on the checksum of that key id and the first `saltSize` bytes. -/
theorem code_authenticate_end_to_end
    (newReader : GoRT.Opaque "io.Reader" → GoRT.Opaque "shadowsocks.EncryptionKey" → GoRT.Opaque "shadowsocks.Reader")
    (newWriter : Tie.Auth.Conn → GoRT.Opaque "shadowsocks.EncryptionKey" → GoRT.Opaque "shadowsocks.Writer")
    (isSrv : GoRT.Opaque "service.ServerSaltGenerator" → List UInt8 → Bool)
    (wrap : Tie.Auth.Conn → GoRT.Opaque "shadowsocks.Reader" → GoRT.Opaque "shadowsocks.Writer" → Tie.Auth.Conn)
    (remoteIP : Tie.Auth.Conn → GoRT.Opaque "netip.Addr")
    (metrics : GoRT.Opaque "service.ShadowsocksConnMetrics") (rc : Gen.Code.ReplayCache) (conn : Tie.Auth.Conn)
    (hlen : (readFull ⟨conn.val⟩ 50).1.length = 50)
    (hfits : ∀ elt ∈ snapshot cl (remoteIP conn), 0 ≤ saltSize elt.Value.CryptoKey ∧ 0 ≤ tagSize elt.Value.CryptoKey ∧
      saltSize elt.Value.CryptoKey + 2 + tagSize elt.Value.CryptoKey ≤ 50) :
    ∃ fa log, Gen.Code.findAccessKey snapshot saltSize tagSize multi newBytesReader since unpack readFull now ⟨conn.val⟩ (remoteIP conn) cl l =
        some (fa.1, fa.2.1, fa.2.2.1, fa.2.2.2.1, fa.2.2.2.2, log) ∧
      ∃ rc' id c' st effs,
        Gen.Code.NewShadowsocksStreamAuthenticator newReader newWriter isSrv wrap (fun _ _ _ _ => fa) remoteIP cl rc metrics l conn =
          some (rc', id, c', st, effs) ∧
        (match (snapshot cl (remoteIP conn)).find? (fun x => Tie.CipherList.opens saltSize tagSize unpack (readFull ⟨conn.val⟩ 50).1 x.Value.CryptoKey) with
         | none => st = some "ERR_CIPHER" ∧ id = "" ∧ rc' = rc
         | some elt =>
           if (readFull ⟨conn.val⟩ 50).2.2 ≠ none then st = some "ERR_CIPHER" ∧ id = "" ∧ rc' = rc
           else id = elt.Value.ID ∧
             let salt := (readFull ⟨conn.val⟩ 50).1.take (saltSize elt.Value.CryptoKey).toNat
             if isSrv elt.Value.SaltGenerator salt = true then st = some "ERR_REPLAY_SERVER" ∧ rc' = rc
             else Tie.Replay.abs rc' = ((Tie.Replay.abs rc).add (Replay.preHash (String.toUTF8 elt.Value.ID).toList salt)).1 ∧
               st = (if ((Tie.Replay.abs rc).add (Replay.preHash (String.toUTF8 elt.Value.ID).toList salt)).2 = true then none
                     else some "ERR_REPLAY_CLIENT")) := by
  obtain ⟨ent, r, salt, t, err, log, hfa, hm⟩ := code_findAccessKey snapshot saltSize tagSize multi newBytesReader since unpack
    readFull now ⟨conn.val⟩ (remoteIP conn) cl l hlen hfits
  refine ⟨(ent, r, salt, t, err), log, hfa, ?_⟩
  cases ent with
  | none =>
    obtain ⟨herr, -, -, hwhy⟩ := hm
    refine ⟨_, _, _, _, _, (Tie.Auth.authenticator_tie ..).trans (Tie.Auth.outcome_error (h := herr) ..), ?_⟩
    cases hf : (snapshot cl (remoteIP conn)).find? (fun x => Tie.CipherList.opens saltSize tagSize unpack (readFull ⟨conn.val⟩ 50).1 x.Value.CryptoKey) with
    | none => exact ⟨rfl, rfl, rfl⟩
    | some elt =>
      -- a key of the snapshot opens the bytes, so the search failed because they could not be read
      have ho := List.find?_some hf
      have hre := hwhy.resolve_right fun hno => Bool.eq_false_iff.1 (hno elt (List.mem_of_find?_eq_some hf)) ho
      exact (if_pos hre).mpr ⟨rfl, rfl, rfl⟩
  | some e =>
    obtain ⟨rfl, hre, elt, hf, rfl, -, rfl, rfl⟩ := hm
    obtain ⟨rc', c', st, effs, h, hm⟩ := Tie.Auth.authenticator_found_model newReader newWriter isSrv wrap
      (fun _ _ _ _ => (some elt.Value, multi (newBytesReader (readFull ⟨conn.val⟩ 50).1) ⟨conn.val⟩,
        (readFull ⟨conn.val⟩ 50).1.take (saltSize elt.Value.CryptoKey).toNat, t, none)) remoteIP cl rc metrics l conn rfl
    rw [hf]
    exact ⟨rc', _, c', st, effs, h, (if_neg (not_not_intro hre)).mpr ⟨rfl, hm⟩⟩

end FindAccessKey

/-- two keys, the second opens the header; 50 bytes are read -/
example : (Gen.Code.findAccessKey
    (fun _ _ => [⟨1, { Gen.Code.CipherEntry.zero with ID := "a", CryptoKey := ⟨1⟩ }⟩, ⟨2, { Gen.Code.CipherEntry.zero with ID := "b", CryptoKey := ⟨2⟩ }⟩])
    (fun _ => 32) (fun _ => 16) (fun _ _ => ⟨7⟩) (fun _ => ⟨8⟩) (fun t => t + 5)
    (fun _ _ k => ([], if k.val = 2 then none else some "bad")) (fun _ n => (List.replicate n.toNat 9, n, none)) 100 ⟨3⟩ ⟨4⟩ ⟨5⟩ ⟨6⟩).map
    (fun r => (r.1.map (·.ID), r.2.2.1.length, r.2.2.2.2.1, r.2.2.2.2.2.map (·.name))) =
    some (some "b", 32, none, ["CipherList.MarkUsedByClientIP"]) := by decide +kernel


end OutlineModel.Props.C01
