import OutlineModel.Proofs.TieReplay
import OutlineModel.Props.C19
import OutlineModel.Proofs.TieAuth
import OutlineModel.Proofs.Replay
import OutlineModel.Gen.Consts
import OutlineModel.Gen.Wiring
import OutlineModel.Proofs.Auth
/-
C07 — A client handshake is accepted at most once within the replay history.

The model is Model/Replay.lean (tied to service/replay.go by the `replay` correspondence campaign); the
constant `Gen.maxCapacity` is regenerated from the source on every run.
-/
namespace OutlineModel.Props.C07
open OutlineModel OutlineModel.Replay

/-- From ANY cache state, with any interleaved resizes that keep the capacity ≥ N > 0, a
    handshake hash presented again within the next N checked handshakes (refused and accepted ones
    both count) is refused. -/
theorem window {N : Nat} (c0 : RC) (h : UInt32) (mid : List Op)
    (hcap0 : (N : Int) ≤ c0.cap) (hcaps : capsGE N mid) (hnum : numAdds mid < N) :
    ((run Gen.maxCapacity (c0.add h).1 mid).add h).2 = false :=
  -- once added, `h` stays remembered through the `numAdds mid` (< N) handshakes of `mid`, with none to spare
  (Safe.run mid _ (Safe.of_add c0 h hcap0 hnum) hcaps).refused

/-- `Add` refuses only a 32-bit checksum that the cache remembers
    (so a never-seen handshake is refused only on a checksum collision with a remembered one). -/
theorem only_collisions_refused (c : RC) (h : UInt32) (hf : (c.add h).2 = false) :
    c.cap ≠ 0 ∧ (h ∈ c.active ∨ h ∈ c.archive) :=
  mem_of_add_false c h hf

/-- a remembered checksum got there by an earlier `Add` of the same checksum: from the empty cache,
    everything remembered after a run was presented during it. -/
theorem remembered_was_presented (M : Nat) : ∀ (ops : List Op) (c : RC) (h : UInt32),
    (run M c ops).mem h → c.mem h ∨ 0 < presentations h ops := by
  intro ops
  induction ops with
  | nil => exact fun _ _ hm => .inl hm
  | cons o os ih =>
    intro c h hm
    rcases ih (c.step M o).1 h hm with h1 | h1
    · cases o with
      | resize n => exact .inl ((resize_mem M c n h).1 h1)
      | add x =>
        refine (mem_add c x h h1).symm.imp_right fun hx => ?_
        simp only [presentations, hx, if_true]
        omega
    · right
      cases o <;> simp only [presentations] <;> omega

/-- Capacity 0 accepts everything and remembers nothing (the nil cache: `nil_accepts_all`). -/
theorem disabled_accepts_all (c : RC) (h : UInt32) (hc : c.cap = 0) : c.add h = (c, true) := if_pos hc

theorem nil_accepts_all (h : UInt32) : addNilable none h = (none, true) := rfl

/-- For concurrent presentations of one fresh handshake — every linearisation is a sequence `ops` of
    whole `Add`/`Resize` critical sections (C19) — exactly one presentation is accepted, however it is
    interleaved with other handshakes and resizes (at most N `Add`s in all, the capacity kept ≥ N). -/
theorem exactly_one_winner {N : Nat} (h : UInt32) (ops : List Op) (c : RC)
    (hcap : (N : Int) ≤ c.cap) (hN : 0 < N) (hfresh : ¬ c.mem h) (hcaps : capsGE N ops)
    (hnum : numAdds ops ≤ N) (hp : 0 < presentations h ops) :
    winners Gen.maxCapacity h c ops = 1 :=
  winners_eq_one ops c hcap hfresh hcaps hnum hp

/-- No cache with a capacity above the generated `MaxCapacity` can be created or
    resized into existence, and the generated bound is the documented 20 000. -/
theorem max_capacity (c : RC) (n : Int) (hn : n > (Gen.maxCapacity : Int)) :
    RC.new Gen.maxCapacity n = none ∧ c.resize Gen.maxCapacity n = (c, false) ∧ Gen.maxCapacity = 20000 :=
  ⟨if_pos hn, if_pos hn, rfl⟩

/-- A remembered handshake gets ERR_REPLAY_CLIENT from the
    authenticator (for any key list / client IP), and the handler treats every authentication error
    — cipher, client replay, server replay — by the same branch (absorb, then return: proved about the translated
    `handleConnection` for every status, C06 `code_unauthenticated_is_absorbed`). -/
theorem replay_is_refused_like_a_probe (st : Auth.AuthState) (c : RC) (hc : st.cache = some c) (ip : Option Nat)
    (valid : Nat → Bool) (srvSalt : CipherList.Entry → Bool) (hash : CipherList.Entry → UInt32) (e : CipherList.Entry) (i : Nat)
    (hf : (CipherList.lookup st.list ip valid).2 = some (e, i)) (hs : srvSalt e = false)
    (hmem : c.cap ≠ 0 ∧ (hash e ∈ c.active ∨ hash e ∈ c.archive)) :
    (Auth.authenticate st ip true valid srvSalt hash).2.status = .errReplayClient := by
  rw [Auth.authenticate_some hf]
  simp [hs, hc, addNilable, (add_snd c (hash e)).2 hmem]

/-- Every service of every configuration generation is given the one
    replay cache of the server object (generated fact); that the server-salt test precedes the cache is proved about
    the translated authenticator (C08 `code_server_salt_is_refused_before_the_cache`). -/
theorem one_cache_for_the_process : Gen.Wiring.singleReplayCache = true := by
  decide +kernel

example : ((run Gen.maxCapacity (({cap := 2, active := [], archive := []} : RC).add 7).1 [.add 8]).add 7).2 = false :=
  window (N := 2) _ 7 [.add 8] (by decide) (by simp [capsGE]) (by simp [numAdds])
example : winners Gen.maxCapacity 7 ({cap := 3, active := [1], archive := [2]} : RC) [.add 7, .add 9, .add 7] = 1 := by decide +kernel
example : (({cap := 2, active := [5], archive := []} : RC).add 5).2 = false := by decide +kernel


/-! The same statements about the code itself.
`Gen.Code.preHash`, `Gen.Code.ReplayCache.Add`, `.Resize` and `Gen.Code.NewReplayCache` are TRANSLATED from
service/replay.go on every run (extract/golean.go). -/

/-- the translated `preHash` never panics and is the model's checksum -/
theorem code_preHash (id salt : List UInt8) : Gen.Code.preHash id salt = some (Replay.preHash id salt) :=
  Tie.Replay.preHash_tie id salt

/-- the translated `ReplayCache.Add` never panics and refines the model's `add` (abstraction: the key lists of the two maps) -/
theorem code_add_refines_model (c : Gen.Code.ReplayCache) (id salt : List UInt8) :
    (Gen.Code.ReplayCache.Add c id salt).map (fun p => (Tie.Replay.abs p.1, p.2)) =
      some ((Tie.Replay.abs c).add (Replay.preHash id salt)) :=
  Tie.Replay.add_tie c id salt _ (Tie.Replay.preHash_tie id salt)

/-- the translated `Resize` and `NewReplayCache` are the model's, with the generated MaxCapacity; `Add` on a nil
    cache answers true -/
theorem code_resize_new_refine_model (c : Gen.Code.ReplayCache) (n : Int) :
    (Gen.Code.ReplayCache.Resize c n).map (fun p => (Tie.Replay.abs p.1, p.2.isNone)) = some ((Tie.Replay.abs c).resize Gen.maxCapacity n) ∧
    (Gen.Code.NewReplayCache n).map Tie.Replay.abs = RC.new Gen.maxCapacity n ∧
    Gen.Code.ReplayCache.Add.onNil = true :=
  ⟨Tie.Replay.resize_tie c n, Tie.Replay.new_tie n, rfl⟩

def codeAdds (c : Gen.Code.ReplayCache) : List (List UInt8 × List UInt8) → Option Gen.Code.ReplayCache
  | [] => some c
  | (i, s) :: r => (Gen.Code.ReplayCache.Add c i s).bind (fun p => codeAdds p.1 r)

/-- a run of the translated `Add` never panics and is the model's run on the checksums -/
theorem codeAdds_run (hs : List (List UInt8 × List UInt8)) (c : Gen.Code.ReplayCache) :
    ∃ c', codeAdds c hs = some c' ∧
      Tie.Replay.abs c' = run Gen.maxCapacity (Tie.Replay.abs c) (hs.map fun p => Op.add (Replay.preHash p.1 p.2)) := by
  induction hs generalizing c with
  | nil => exact ⟨c, rfl, rfl⟩
  | cons p r ih =>
    obtain ⟨c1, hA, h1⟩ := Tie.Replay.add_eq c p.1 p.2
    obtain ⟨c', hB, h2⟩ := ih c1
    exact ⟨c', by simp only [codeAdds, hA, Option.bind_some, hB], by rw [h2, h1]; rfl⟩

/-- The window theorem over the translated code: after `Add(id, salt)`, fewer than N further
    `Add`s of anything, on a cache of capacity ≥ N > 0, the same handshake is refused by the translated `Add`. -/
theorem window_code {N : Nat} (c0 : Gen.Code.ReplayCache) (id salt : List UInt8) (mid : List (List UInt8 × List UInt8))
    (hcap : (N : Int) ≤ c0.capacity) (hnum : mid.length < N) :
    ∃ c1 b c2 c3, Gen.Code.ReplayCache.Add c0 id salt = some (c1, b) ∧ codeAdds c1 mid = some c2 ∧
      Gen.Code.ReplayCache.Add c2 id salt = some (c3, false) := by
  obtain ⟨c1, hA, h1⟩ := Tie.Replay.add_eq c0 id salt
  obtain ⟨c2, hB, h2⟩ := codeAdds_run mid c1
  obtain ⟨c3, hC, -⟩ := Tie.Replay.add_eq c2 id salt
  refine ⟨c1, _, c2, c3, hA, hB, ?_⟩
  rw [hC, h2, h1, window (N := N) (Tie.Replay.abs c0) (Replay.preHash id salt) _ hcap (Tie.Replay.capsGE_map_add N mid)
    (Tie.Replay.numAdds_map_add mid ▸ hnum)]


/-- how many of the translated `Add` calls of a run presented the handshake (id, salt), compared by checksum, and were
    ACCEPTED; `none` if a call panicked -/
def codeWinners (id salt : List UInt8) (c : Gen.Code.ReplayCache) : List (List UInt8 × List UInt8) → Option Nat
  | [] => some 0
  | (i, s) :: r => (Gen.Code.ReplayCache.Add c i s).bind (fun p =>
      (codeWinners id salt p.1 r).map (fun n =>
        (if Replay.preHash i s = Replay.preHash id salt ∧ p.2 = true then 1 else 0) + n))

theorem codeWinners_abs (id salt : List UInt8) (hs : List (List UInt8 × List UInt8)) (c : Gen.Code.ReplayCache) :
    codeWinners id salt c hs =
      some (winners Gen.maxCapacity (Replay.preHash id salt) (Tie.Replay.abs c) (hs.map fun p => Op.add (Replay.preHash p.1 p.2))) := by
  induction hs generalizing c with
  | nil => rfl
  | cons p r ih =>
    obtain ⟨c1, hA, h1⟩ := Tie.Replay.add_eq c p.1 p.2
    simp only [codeWinners, hA, Option.bind_some, ih c1, Option.map_some, List.map_cons, winners, h1]

/-- Over runs of the translated `Add` (each call one critical section: C19), copies of one
    fresh handshake presented among at most N checked handshakes on a cache of capacity ≥ N > 0 are accepted exactly once —
    counted by the 32-bit checksum, which is what the cache remembers -/
theorem code_exactly_one_winner {N : Nat} (id salt : List UInt8) (hs : List (List UInt8 × List UInt8)) (c : Gen.Code.ReplayCache)
    (hcap : (N : Int) ≤ c.capacity) (hN : 0 < N) (hfresh : ¬ (Tie.Replay.abs c).mem (Replay.preHash id salt))
    (hnum : hs.length ≤ N) (hp : 0 < presentations (Replay.preHash id salt) (hs.map fun p => Op.add (Replay.preHash p.1 p.2))) :
    codeWinners id salt c hs = some 1 := by
  rw [codeWinners_abs, exactly_one_winner (N := N) (Replay.preHash id salt) _ (Tie.Replay.abs c) hcap hN hfresh
    (Tie.Replay.capsGE_map_add N hs) (Tie.Replay.numAdds_map_add hs ▸ hnum) hp]

section Authenticator
variable (newReader : GoRT.Opaque "io.Reader" → GoRT.Opaque "shadowsocks.EncryptionKey" → GoRT.Opaque "shadowsocks.Reader")
  (newWriter : Tie.Auth.Conn → GoRT.Opaque "shadowsocks.EncryptionKey" → GoRT.Opaque "shadowsocks.Writer")
  (isSrv : GoRT.Opaque "service.ServerSaltGenerator" → List UInt8 → Bool)
  (wrap : Tie.Auth.Conn → GoRT.Opaque "shadowsocks.Reader" → GoRT.Opaque "shadowsocks.Writer" → Tie.Auth.Conn)
  (findAccessKey : Tie.Auth.Conn → GoRT.Opaque "netip.Addr" → GoRT.Opaque "service.CipherList" → GoRT.Opaque "slog.Logger" → Tie.Auth.FA)
  (remoteIP : Tie.Auth.Conn → GoRT.Opaque "netip.Addr")
  (ciphers : GoRT.Opaque "service.CipherList") (metrics : GoRT.Opaque "service.ShadowsocksConnMetrics")
  (l : GoRT.Opaque "slog.Logger")

/-- The translated authenticator (the function literal of `NewShadowsocksStreamAuthenticator`, service/tcp.go), whenever
    the key search found an entry `e` for a salt that is not one of the server's own: never panics; the replay cache
    afterwards and the verdict are exactly the model's `add` of the checksum of (key id, salt) — no error if it accepts,
    ERR_REPLAY_CLIENT otherwise; the key id reported is `e`'s. -/
theorem code_authenticator_replay_verdict (rc : Gen.Code.ReplayCache) (conn : Tie.Auth.Conn)
    (e : Gen.Code.CipherEntry) (rd : GoRT.Opaque "io.Reader") (salt : List UInt8) (t : Int)
    (hfa : findAccessKey conn (remoteIP conn) ciphers l = (some e, rd, salt, t, none))
    (hns : isSrv e.SaltGenerator salt = false) :
    (Gen.Code.NewShadowsocksStreamAuthenticator newReader newWriter isSrv wrap findAccessKey remoteIP ciphers rc metrics l conn).map
        (fun r => (Tie.Replay.abs r.1, r.2.1, r.2.2.2.1)) =
      some (((Tie.Replay.abs rc).add (Replay.preHash (String.toUTF8 e.ID).toList salt)).1, e.ID,
        if ((Tie.Replay.abs rc).add (Replay.preHash (String.toUTF8 e.ID).toList salt)).2 = true then none else some "ERR_REPLAY_CLIENT") := by
  obtain ⟨rc', habs, h⟩ := Tie.Auth.authenticator_found newReader newWriter isSrv wrap findAccessKey remoteIP ciphers rc metrics l conn hfa
  rw [h, if_neg (Bool.eq_false_iff.1 hns), Option.map_some, ← habs]
  split <;> rfl

/-- Two runs of the translated authenticator that find the same
    entry for the same salt, on a cache of capacity ≥ N > 0 with fewer than N other `Add`s between them: the second is
    refused with ERR_REPLAY_CLIENT and hands back no connection. -/
theorem code_authenticator_refuses_replay_within_window {N : Nat} (rc0 : Gen.Code.ReplayCache) (conn conn' : Tie.Auth.Conn)
    (e : Gen.Code.CipherEntry) (rd rd' : GoRT.Opaque "io.Reader") (salt : List UInt8) (t t' : Int)
    (mid : List (List UInt8 × List UInt8))
    (hfa : findAccessKey conn (remoteIP conn) ciphers l = (some e, rd, salt, t, none))
    (hfa' : findAccessKey conn' (remoteIP conn') ciphers l = (some e, rd', salt, t', none))
    (hns : isSrv e.SaltGenerator salt = false)
    (hcap : (N : Int) ≤ rc0.capacity) (hnum : mid.length < N) :
    ∃ rc1 id1 c1 st1 ef1 rc2 rc3 ef3,
      Gen.Code.NewShadowsocksStreamAuthenticator newReader newWriter isSrv wrap findAccessKey remoteIP ciphers rc0 metrics l conn =
        some (rc1, id1, c1, st1, ef1) ∧
      codeAdds rc1 mid = some rc2 ∧
      Gen.Code.NewShadowsocksStreamAuthenticator newReader newWriter isSrv wrap findAccessKey remoteIP ciphers rc2 metrics l conn' =
        some (rc3, e.ID, ⟨0⟩, some "ERR_REPLAY_CLIENT", ef3) := by
  obtain ⟨rc1, h1, e1⟩ := Tie.Auth.authenticator_found newReader newWriter isSrv wrap findAccessKey remoteIP ciphers rc0 metrics l conn hfa
  obtain ⟨rc2, hB, h2⟩ := codeAdds_run mid rc1
  obtain ⟨rc3, -, e3⟩ := Tie.Auth.authenticator_found newReader newWriter isSrv wrap findAccessKey remoteIP ciphers rc2 metrics l conn' hfa'
  -- the second run meets the cache the window theorem speaks of
  have hw := window (N := N) (Tie.Replay.abs rc0) (Replay.preHash (String.toUTF8 e.ID).toList salt) _ hcap
    (Tie.Replay.capsGE_map_add N mid) (Tie.Replay.numAdds_map_add mid ▸ hnum)
  rw [← h1, ← h2] at hw
  have hns' := Bool.eq_false_iff.1 hns
  refine ⟨rc1, e.ID, ?_, ?_, ?_, rc2, rc3, ?_, ?first, hB, ?second⟩
  case first => rw [e1, if_neg hns']
  case second => rw [e3, if_neg hns', hw]; rfl

/-- When the key search fails, the translated authenticator
    reports ERR_CIPHER with an empty key id, does not touch the replay cache, and reports exactly one cipher search,
    as not found. -/
theorem code_authenticator_leaves_cache_alone_without_a_key (rc : Gen.Code.ReplayCache) (conn : Tie.Auth.Conn)
    (ent : Option Gen.Code.CipherEntry) (rd : GoRT.Opaque "io.Reader") (salt : List UInt8) (t : Int) (err : String)
    (hfa : findAccessKey conn (remoteIP conn) ciphers l = (ent, rd, salt, t, some err)) :
    Gen.Code.NewShadowsocksStreamAuthenticator newReader newWriter isSrv wrap findAccessKey remoteIP ciphers rc metrics l conn =
      some (rc, "", ⟨0⟩, some "ERR_CIPHER", [Tie.Auth.searchEff metrics false t]) := by
  rw [Tie.Auth.authenticator_tie, hfa, Tie.Auth.outcome_error (h := by simp) ..]

end Authenticator

def exampleFA : Tie.Auth.FA := (some { Gen.Code.CipherEntry.zero with ID := "k", CryptoKey := ⟨1⟩, SaltGenerator := ⟨9⟩ }, ⟨2⟩, [1, 2, 3, 4, 5, 6, 7, 8], 0, none)

/-- the hypotheses of `code_authenticator_refuses_replay_within_window` are met by a concrete run —
    an entry "k", an 8-byte salt no generator recognises, a cache of capacity 4, nothing in between -/
example : ∃ rc1 id1 c1 st1 ef1 rc2 rc3 ef3,
    Gen.Code.NewShadowsocksStreamAuthenticator (fun _ _ => ⟨0⟩) (fun _ _ => ⟨0⟩) (fun _ _ => false) (fun _ _ _ => ⟨77⟩)
      (fun _ _ _ _ => exampleFA) (fun _ => ⟨0⟩) ⟨0⟩ { Gen.Code.ReplayCache.zero with capacity := 4 } ⟨0⟩ ⟨0⟩ ⟨5⟩ = some (rc1, id1, c1, st1, ef1) ∧
    codeAdds rc1 [] = some rc2 ∧
    Gen.Code.NewShadowsocksStreamAuthenticator (fun _ _ => ⟨0⟩) (fun _ _ => ⟨0⟩) (fun _ _ => false) (fun _ _ _ => ⟨77⟩)
      (fun _ _ _ _ => exampleFA) (fun _ => ⟨0⟩) ⟨0⟩ rc2 ⟨0⟩ ⟨0⟩ ⟨6⟩ = some (rc3, "k", ⟨0⟩, some "ERR_REPLAY_CLIENT", ef3) :=
  code_authenticator_refuses_replay_within_window (N := 1) (mid := []) (rd := ⟨2⟩) (rd' := ⟨2⟩) (t := 0) (t' := 0)
    (e := { Gen.Code.CipherEntry.zero with ID := "k", CryptoKey := ⟨1⟩, SaltGenerator := ⟨9⟩ }) (salt := [1, 2, 3, 4, 5, 6, 7, 8])
    (hfa := rfl) (hfa' := rfl) (hns := rfl) (hcap := by decide) (hnum := by decide) ..


/-- The theorems above are about `Add` as a sequential function (the translation drops
    the lock operations); they speak about concurrent callers because every access `Add` and `Resize` make to the
    cache's fields — `capacity`, `active`, `archive`, the lookup in the archive included — happens inside ONE critical
    section of the cache's mutex, with the guard held (regenerated lock facts over the working tree; the same
    obligations as C19's, restricted to the replay cache).  A lookup hoisted out of the lock falsifies this. -/
theorem add_is_one_critical_section :
    C19.oneSection "ReplayCache" "ReplayCache.Add" ["capacity", "active", "archive"] = true ∧
    C19.oneSection "ReplayCache" "ReplayCache.Resize" ["capacity", "active", "archive"] = true ∧
    C19.guardedOK "ReplayCache" "capacity" "ReplayCache.mutex" = true ∧
    C19.guardedOK "ReplayCache" "active" "ReplayCache.mutex" = true ∧
    C19.guardedOK "ReplayCache" "archive" "ReplayCache.mutex" = true :=
  -- the replay cache's rows of C19's tables, found wherever they stand (`List.Mem.head` / `.tail`)
  ⟨C19.operations_atomic ("ReplayCache", "ReplayCache.Add") (by repeat constructor),
   C19.operations_atomic ("ReplayCache", "ReplayCache.Resize") (by repeat constructor),
   (C19.guards_hold ("ReplayCache", "capacity", "ReplayCache.mutex") (by repeat constructor)).1,
   (C19.guards_hold ("ReplayCache", "active", "ReplayCache.mutex") (by repeat constructor)).1,
   (C19.guards_hold ("ReplayCache", "archive", "ReplayCache.mutex") (by repeat constructor)).1⟩

end OutlineModel.Props.C07
