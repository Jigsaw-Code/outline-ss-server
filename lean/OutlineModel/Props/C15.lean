import OutlineModel.Proofs.TieMConn
import OutlineModel.Proofs.TieHandle
import OutlineModel.Model.MConn
import OutlineModel.Proofs.TCP
import OutlineModel.Gen.Decisions
/-
C15 — TCP connection metrics match what happened on the wire.

The effect list of Model/TCP.handle contains every TCPConnMetrics call with its arguments (`auth` =
AddAuthenticated, `probe` = AddProbe, `closed` = AddClosed with ClientProxy, ProxyTarget, TargetProxy and,
of ProxyClient, only whether it is non-zero), next to what actually reached the target and the client.
Tied to service/tcp.go and service/metrics/metrics.go by the `tcp` campaign: per-connection recording
TCPConnMetrics, byte counts measured independently at the client and target sockets, 4–15 concurrent
connections.  A handler panic would skip AddClosed: conditional on C18.
-/
namespace OutlineModel.Props.C15
open OutlineModel OutlineModel.TCP OutlineModel.Auth OutlineModel.CipherList

def isClosed : Eff → Bool | .closed _ _ _ _ _ => true | _ => false
def isAuth : Eff → Bool | .auth _ => true | _ => false
def isProbe : Eff → Bool | .probe _ _ _ => true | _ => false

variable (c : Cfg) (st : AuthState) (valid : Nat → Bool) (srvSalt : Entry → Bool) (hash : Entry → UInt32)
  (greeting : Nat → List UInt8)

/-- the decision table of the model: the effect list of a connection has one of four shapes -/
theorem outcome_table (s : Script) :
    let effs := (handle c st s valid srvSalt hash greeting).2
    let authOK := (authenticate st (some 1) (decide (s.raw ≥ c.bytesForKeyFinding)) valid srvSalt hash).2
    -- not authenticated: probe + closed with the authentication status, never `auth`
    (authOK.status ≠ .ok ∧ ∃ found cls, effs = [.search found, .probe authOK.status.toString
        (match s.clientEnd with | .fin => "eof" | .idle => "timeout") s.raw,
        .closed authOK.status.toString s.raw 0 0 false, .closeClass cls]) ∨
    -- authenticated, address unreadable
    (authOK.status = .ok ∧ ∃ found cls, effs = [.search found, .auth authOK.id, .closed "ERR_READ_ADDRESS" s.raw 0 0 false, .closeClass cls]) ∨
    -- authenticated, dial refused by the policy or by the network: nothing relayed ("OK": a script `.forbidden ip` whose
    -- `ip` the parameter `c.validate` accepts)
    (authOK.status = .ok ∧ ∃ found status cp, (status = "ERR_CONNECT" ∨ status = "ERR_ADDRESS_INVALID" ∨ status = "ERR_ADDRESS_PRIVATE" ∨ status = "OK") ∧
        effs = [.search found, .auth authOK.id, .closed status cp 0 0 false, .closeClass "quick"]) ∨
    -- relayed: OK or ERR_RELAY_CLIENT, counters = bytes that crossed
    (authOK.status = .ok ∧ ∃ found up reply status cls sf, (status = "OK" ∨ status = "ERR_RELAY_CLIENT") ∧
        effs = [.search found, .auth authOK.id, .dial, .toTarget up true] ++ (if reply.isEmpty then [] else [.toClient reply]) ++
               [.closed status s.raw up.length reply.length (!reply.isEmpty), .closeClass cls, .serverFin sf]) := by
  intro effs authOK
  rcases handle_cases c st s valid srvSalt hash greeting with
    ⟨hn, h⟩ | ⟨ho, h⟩ | ⟨ho, _, stt, _, hstt, h⟩ | ⟨ho, up, reply, stt, sf, hstt, h⟩
  · exact .inl ⟨hn, _, _, h⟩
  · exact .inr (.inl ⟨ho, _, _, h⟩)
  · exact .inr (.inr (.inl ⟨ho, _, stt, _, hstt, h⟩))
  · exact .inr (.inr (.inr ⟨ho, _, up, reply, stt, _, sf, hstt, h⟩))

/-- Exactly one AddClosed per connection.  (Its place, after every other metric call, is in
    `outcome_table`, not here.) -/
theorem closed_exactly_once (s : Script) :
    ((handle c st s valid srvSalt hash greeting).2.filter isClosed).length = 1 := by
  rcases handle_cases c st s valid srvSalt hash greeting with
    ⟨_, h⟩ | ⟨_, h⟩ | ⟨_, _, _, _, _, h⟩ | ⟨_, _, _, _, _, _, h⟩
  all_goals simp [h, List.filter, isClosed, apply_ite (List.filter isClosed)]

/-- One AddAuthenticated when authentication succeeded, none otherwise.  (Its id and its place
    before the AddClosed are in `outcome_table`, not here.) -/
theorem authenticated_iff (s : Script) :
    ((handle c st s valid srvSalt hash greeting).2.filter isAuth).length =
      (if (authenticate st (some 1) (decide (s.raw ≥ c.bytesForKeyFinding)) valid srvSalt hash).2.status = .ok then 1 else 0) := by
  rcases handle_cases c st s valid srvSalt hash greeting with
    ⟨ho, h⟩ | ⟨ho, h⟩ | ⟨ho, _, _, _, _, h⟩ | ⟨ho, _, _, _, _, _, h⟩
  all_goals simp [h, ho, List.filter, isAuth, apply_ite (List.filter isAuth)]

/-- One AddProbe when authentication failed, none otherwise; it carries the number of bytes
    received from the client. -/
theorem probe_iff_auth_failed (s : Script) :
    ((handle c st s valid srvSalt hash greeting).2.filter isProbe).length =
      (if (authenticate st (some 1) (decide (s.raw ≥ c.bytesForKeyFinding)) valid srvSalt hash).2.status = .ok then 0 else 1) ∧
    ∀ stt dr n, Eff.probe stt dr n ∈ (handle c st s valid srvSalt hash greeting).2 → n = s.raw := by
  rcases handle_cases c st s valid srvSalt hash greeting with
    ⟨ho, h⟩ | ⟨ho, h⟩ | ⟨ho, _, _, _, _, h⟩ | ⟨ho, _, _, _, _, _, h⟩
  all_goals simp [h, ho, List.filter, isProbe, apply_ite (List.filter isProbe)]

/-- For a relayed connection the counters reported at close are the bytes the client
    sent, the plaintext written to the target and the plaintext the client can decrypt; ProxyClient is non-zero exactly
    when there was a reply. -/
theorem counters_exact_on_completion (s : Script) (status : String) (cp pt tp : Nat) (pc : Bool) (up : List UInt8) (fin : Bool)
    (hc : Eff.closed status cp pt tp pc ∈ (handle c st s valid srvSalt hash greeting).2)
    (ht : Eff.toTarget up fin ∈ (handle c st s valid srvSalt hash greeting).2) :
    cp = s.raw ∧ pt = up.length ∧
    (tp = 0 ∧ pc = false ∨ ∃ reply, Eff.toClient reply ∈ (handle c st s valid srvSalt hash greeting).2 ∧ tp = reply.length ∧ pc = true) := by
  rcases handle_cases c st s valid srvSalt hash greeting with
    ⟨_, h⟩ | ⟨_, h⟩ | ⟨_, _, _, _, _, h⟩ | ⟨_, _, reply, _, _, _, h⟩
  all_goals simp [h] at hc ht ⊢
  -- only the relayed shape has a `toTarget`: `simp` closed the other three
  obtain ⟨rfl, -⟩ := ht
  obtain ⟨-, rfl, rfl, rfl, rfl⟩ := hc
  cases reply <;> simp

/-- For a script whose byte count is what its structure says (salt + chunks ≤ raw and, when
    it authenticates, at least the 50 bytes of the key search), ClientProxy never exceeds the bytes the client sent —
    on every outcome, also when the connection ends early on a dial error. -/
theorem counters_never_exceed (s : Script) (hraw : c.saltSize + (s.chunks.map (chunkWire c)).sum ≤ s.raw)
    (h50 : c.bytesForKeyFinding ≤ s.raw ∨ (authenticate st (some 1) (decide (s.raw ≥ c.bytesForKeyFinding)) valid srvSalt hash).2.status ≠ .ok)
    (status : String) (cp pt tp : Nat) (pc : Bool)
    (hc : Eff.closed status cp pt tp pc ∈ (handle c st s valid srvSalt hash greeting).2) : cp ≤ s.raw := by
  rcases handle_cases c st s valid srvSalt hash greeting with
    ⟨_, h⟩ | ⟨_, h⟩ | ⟨ho, consumed, _, hle, _, h⟩ | ⟨_, _, _, _, _, _, h⟩
  all_goals
    rw [h] at hc
    simp at hc
  · omega
  · omega
  · -- ended before the relay: ClientProxy is what the address took, or the 50 bytes of the key search if that is more
    have h50' : c.bytesForKeyFinding ≤ s.raw := h50.resolve_right (not_not_intro ho)
    omega
  · omega

/-! Model/MConn: the counting wrapper metrics.MeasureConn, tied by the `mconn` campaign -/
section MeasuredConn
open OutlineModel.MConn

theorem copied_le (steps : List CopyStep) (h : ∀ st ∈ steps, st.2 ≤ st.1) :
    copied steps ≤ deliveredIn steps ∧ copied steps ≤ (steps.map (·.1)).sum := by
  induction steps with
  | nil => simp [copied, deliveredIn]
  | cons st rest ih =>
    obtain ⟨h1, h'⟩ := List.forall_mem_cons.1 h
    have h2 := ih h'
    simp only [copied, deliveredIn, List.map_cons, List.sum_cons]
    split <;> omega

/-- the io.Writer contract of the destination of a WriteTo: it accepts at most what it is given -/
def WritersSane (ops : List MConn.Op) : Prop :=
  ∀ o ∈ ops, match o with
    | .writeTo steps => ∀ st ∈ steps, st.2 ≤ st.1
    | _ => True

theorem run_counts (ops : List MConn.Op) (hs : WritersSane ops) (s : MConn.St) :
    (MConn.run s ops).wr = s.wr + sentToPeer ops ∧ (MConn.run s ops).rd ≤ s.rd + receivedFromPeer ops := by
  induction ops generalizing s with
  | nil => simp [MConn.run, sentToPeer, receivedFromPeer]
  | cons o os ih =>
    obtain ⟨h0, hs'⟩ := List.forall_mem_cons.1 hs
    have h := ih hs' (MConn.step s o)
    simp only [MConn.run, List.foldl_cons] at h ⊢
    cases o with
    | writeTo st =>
      -- the one place where the counter may stay behind the wire: io.Copy reports what the destination took
      have := (copied_le st h0).1
      simp only [MConn.step, sentToPeer, receivedFromPeer] at h ⊢
      exact ⟨h.1, by omega⟩
    | _ => simpa [MConn.step, sentToPeer, receivedFromPeer, acceptedIn, Nat.add_assoc] using h

/-- For EVERY sequence of reads, writes and copies through the counting
    wrapper, whatever short counts and errors the underlying connection answers (`WritersSane`: the destination of a
    `WriteTo` takes at most what it is given): the write counter equals the bytes the underlying connection accepted
    (never the bytes merely requested), and the read counter never exceeds the bytes it delivered. -/
theorem counters_never_run_ahead_of_the_wire (ops : List MConn.Op) (hs : WritersSane ops) :
    (MConn.run {} ops).wr = sentToPeer ops ∧ (MConn.run {} ops).rd ≤ receivedFromPeer ops := by
  simpa using run_counts ops hs {}

theorem sent_le_requested (ops : List MConn.Op)
    (hw : ∀ o ∈ ops, match o with
      | .write len acc => acc ≤ len
      | .readFrom _ steps => ∀ st ∈ steps, st.2 ≤ st.1
      | _ => True) :
    sentToPeer ops ≤ requested ops := by
  induction ops with
  | nil => simp [sentToPeer, requested]
  | cons o os ih =>
    obtain ⟨h0, hw'⟩ := List.forall_mem_cons.1 hw
    have h1 := ih hw'
    cases o with
    | write l a =>
      simp only at h0
      simp only [sentToPeer, requested]
      omega
    | readFrom d st =>
      have := (copied_le st h0).2
      simp only [sentToPeer, requested, acceptedIn]
      omega
    | _ => simpa [sentToPeer, requested] using h1

/-- a write cut short and a copy whose second step falls short: 2000 counted of 4000 requested -/
example : (MConn.run {} [.write 1000 500, .readFrom false [(1000, 1000), (1000, 500), (1000, 1000)], .read 7]) = { rd := 7, wr := 2000 } := by decide +kernel
example : requested [.write 1000 500, .readFrom false [(1000, 1000), (1000, 500), (1000, 1000)]] = 4000 := by decide +kernel
end MeasuredConn


/-- The status literals of service/tcp.go, as a regenerated table: those of the
    authenticator and handler models (OK and the policy statuses of C05 come from elsewhere) and ERR_RELAY_TARGET,
    which only a failing target connection produces and the model does not have.  A status added or renamed in the
    source changes the table and fails here. -/
theorem status_alphabet_as_modelled :
    Gen.Decisions.tcpStatuses = ["ERR_CIPHER", "ERR_CONNECT", "ERR_READ_ADDRESS", "ERR_RELAY_CLIENT", "ERR_RELAY_TARGET",
      "ERR_REPLAY_CLIENT", "ERR_REPLAY_SERVER"] := rfl


/-! `Gen.Code.measuredConn.Read / Write / WriteTo / ReadFrom` are translated from service/metrics/metrics.go on every run
(extract/golean.go); the underlying connection's operations and io.Copy are parameters (any functions). -/

/-- The translated `Read` and `Write` never panic, hand the underlying answer through
    unchanged and add the count the underlying operation reported (assumed ≥ 0) to the read, respectively the write
    counter: a short or failed write counts what was accepted, not what was asked. -/
theorem code_counters_follow_the_wire
    (R W : GoRT.Opaque "transport.StreamConn" → List UInt8 → Int × Option String) (c : Gen.Code.measuredConn) (b : List UInt8)
    (h0 : 0 ≤ c.readCount) (h1 : 0 ≤ c.writeCount) (hr : 0 ≤ (R c.StreamConn b).1) (hw : 0 ≤ (W c.StreamConn b).1) :
    (∃ c', Gen.Code.measuredConn.Read R c b = some (c', (R c.StreamConn b).1, (R c.StreamConn b).2) ∧
        Tie.MConn.abs c' = MConn.step (Tie.MConn.abs c) (.read (R c.StreamConn b).1.toNat)) ∧
    (∃ c', Gen.Code.measuredConn.Write W c b = some (c', (W c.StreamConn b).1, (W c.StreamConn b).2) ∧
        Tie.MConn.abs c' = MConn.step (Tie.MConn.abs c) (.write b.length (W c.StreamConn b).1.toNat)) := by
  obtain ⟨c1, a1, a2, _⟩ := Tie.MConn.read_tie R c b h0 hr
  obtain ⟨c2, b1, b2, _⟩ := Tie.MConn.write_tie W c b h1 hw
  exact ⟨⟨c1, a1, a2⟩, ⟨c2, b1, b2⟩⟩

/-- the copy paths: WriteTo adds io.Copy's count to the read counter, ReadFrom adds the underlying ReaderFrom's (or
    io.Copy's) count to the write counter -/
theorem code_copy_paths_follow_the_wire
    (copyOut : GoRT.Opaque "io.Writer" → GoRT.Opaque "transport.StreamConn" → Int × Option String)
    (impl : GoRT.Opaque "transport.StreamConn" → Bool)
    (rf : GoRT.Opaque "io.ReaderFrom" → GoRT.Opaque "io.Reader" → Int × Option String)
    (copyIn : GoRT.Opaque "transport.StreamConn" → GoRT.Opaque "io.Reader" → Int × Option String)
    (c : Gen.Code.measuredConn) (w : GoRT.Opaque "io.Writer") (r : GoRT.Opaque "io.Reader") (so si : List MConn.CopyStep)
    (h0 : 0 ≤ c.readCount) (h1 : 0 ≤ c.writeCount) (ho : (copyOut w c.StreamConn).1 = (MConn.copied so : Int))
    (hi : (if impl c.StreamConn then rf ⟨c.StreamConn.val⟩ r else copyIn c.StreamConn r).1 = (MConn.copied si : Int)) :
    (∃ c', Gen.Code.measuredConn.WriteTo copyOut c w = some (c', (copyOut w c.StreamConn).1, (copyOut w c.StreamConn).2) ∧
        Tie.MConn.abs c' = MConn.step (Tie.MConn.abs c) (.writeTo so)) ∧
    (∃ c', Gen.Code.measuredConn.ReadFrom rf impl copyIn c r =
          some (c', (if impl c.StreamConn then rf ⟨c.StreamConn.val⟩ r else copyIn c.StreamConn r).1,
                    (if impl c.StreamConn then rf ⟨c.StreamConn.val⟩ r else copyIn c.StreamConn r).2) ∧
        Tie.MConn.abs c' = MConn.step (Tie.MConn.abs c) (.readFrom (impl c.StreamConn) si)) :=
  ⟨Tie.MConn.writeTo_tie copyOut c w so h0 ho, Tie.MConn.readFrom_tie impl rf copyIn c r si h1 hi⟩

def callsNamed (n : String) (l : List GoRT.Eff) : Nat := (l.filter (fun e => e.name = n)).length

@[simp] theorem callsNamed_nil (n : String) : callsNamed n [] = 0 := rfl

@[simp] theorem callsNamed_cons (n : String) (e : GoRT.Eff) (l : List GoRT.Eff) :
    callsNamed n (e :: l) = (if e.name = n then 1 else 0) + callsNamed n l := by
  unfold callsNamed
  by_cases h : e.name = n <;> simp [h, Nat.add_comm]

@[simp] theorem callsNamed_append (n : String) (l₁ l₂ : List GoRT.Eff) :
    callsNamed n (l₁ ++ l₂) = callsNamed n l₁ + callsNamed n l₂ := by
  simp [callsNamed]

@[simp] theorem callsNamed_armEffs (n : String) (cd : Int × Bool) (now rt : Int) (oc : Tie.Handle.Conn)
    (h1 : n ≠ "Conn.SetDeadline") (h2 : n ≠ "Conn.SetReadDeadline") : callsNamed n (Tie.Handle.armEffs cd now rt oc) = 0 := by
  unfold Tie.Handle.armEffs
  cases cd.2 <;> simp [Ne.symm h1, Ne.symm h2]

/-- What the closed form `Tie.Handle.outcome` of the translated `handleConnection` (`Tie.Handle.handleConnection_tie`)
    reports, counted in its call log: never `AddClosed` or `Close`; after a failed authentication one `absorbProbe`, with
    that status, and no `AddAuthenticated`; after a successful one the converse, with the key id authenticate returned -/
theorem outcome_reports (cd : Int × Bool) (now rt : Int) (oc : Tie.Handle.Conn) (cm : GoRT.Opaque "service.TCPConnMetrics")
    (disc : GoRT.Opaque "io.Writer") (auth : String × Tie.Handle.Conn × Option String)
    (req : Tie.Handle.Conn → String × Option String)
    (relay : GoRT.Opaque "slog.Logger" → GoRT.Opaque "context.Context" → GoRT.Opaque "transport.FuncStreamDialer" → String → Tie.Handle.Conn → Tie.Handle.Conn → Option String)
    (lg : GoRT.Opaque "slog.Logger") (ctx : GoRT.Opaque "context.Context") (dial : GoRT.Opaque "transport.FuncStreamDialer") :
    let log := (Tie.Handle.outcome cd now rt oc cm disc auth req relay lg ctx dial).2
    callsNamed "TCPConnMetrics.AddClosed" log = 0 ∧ callsNamed "Conn.Close" log = 0 ∧
    (∀ e, auth.2.2 = some e → callsNamed "TCPConnMetrics.AddAuthenticated" log = 0 ∧ callsNamed "absorbProbe" log = 1 ∧
        Tie.Handle.absorbEff oc cm e ∈ log) ∧
    (auth.2.2 = none → callsNamed "TCPConnMetrics.AddAuthenticated" log = 1 ∧ callsNamed "absorbProbe" log = 0 ∧
        Tie.Handle.authEff cm auth.1 ∈ log) := by
  open Tie.Handle in
  cases h : auth.2.2 with
  | some e => rw [outcome_refused h]; simp [callAuth, absorbEff]
  | none =>
    cases hr : (req auth.2.1).2 with
    | some e => rw [outcome_bad_address h hr]; simp [callAuth, authEff, callReq, clearEff, drainEff]
    | none => rw [outcome_relayed h hr]; simp [callAuth, authEff, callReq, clearEff, callRelay]

/-- The translated `streamHandler.handleConnection` (service/tcp.go), its
    collaborators being parameters: it never panics; it calls `AddAuthenticated` exactly once, with the key id the stored
    authenticate function returned, when that function succeeded, and never when it failed; it hands the connection to
    `absorbProbe` (the one place `AddProbe` is called) exactly once, with the status it then returns, when authentication
    failed, and never when it succeeded. -/
theorem code_authentication_and_probe_reports
    (ctxDeadline : GoRT.Opaque "context.Context" → Int × Bool) (dial : GoRT.Opaque "transport.FuncStreamDialer")
    (authenticate : Tie.Handle.Conn → String × Tie.Handle.Conn × Option String)
    (req : Tie.Handle.Conn → String × Option String)
    (disc : GoRT.Opaque "io.Writer") (now : Int)
    (relay : GoRT.Opaque "slog.Logger" → GoRT.Opaque "context.Context" → GoRT.Opaque "transport.FuncStreamDialer" → String → Tie.Handle.Conn → Tie.Handle.Conn → Option String)
    (h : Gen.Code.streamHandler) (ctx : GoRT.Opaque "context.Context") (oc : Tie.Handle.Conn)
    (cm : GoRT.Opaque "service.TCPConnMetrics") (pm : Gen.Code.ProxyMetrics) :
    ∃ st log, Gen.Code.streamHandler.handleConnection ctxDeadline dial authenticate req disc now relay h ctx oc cm pm =
        some (h, pm, st, log) ∧
      (match (authenticate oc).2.2 with
       | some e => st = some e ∧ callsNamed "TCPConnMetrics.AddAuthenticated" log = 0 ∧ callsNamed "absorbProbe" log = 1 ∧
                    Tie.Handle.absorbEff oc cm e ∈ log
       | none => callsNamed "TCPConnMetrics.AddAuthenticated" log = 1 ∧ callsNamed "absorbProbe" log = 0 ∧
                    Tie.Handle.authEff cm (authenticate oc).1 ∈ log) := by
  rw [Tie.Handle.handleConnection_tie]
  refine ⟨_, _, rfl, ?_⟩
  obtain ⟨-, -, hno, hyes⟩ := outcome_reports (ctxDeadline ctx) now h.readTimeout oc cm disc (authenticate oc) req relay
    h.logger ctx dial
  cases ha : (authenticate oc).2.2 with
  | some e => exact ⟨by rw [Tie.Handle.outcome_refused ha], hno e ha⟩
  | none => exact hyes ha

/-- The status the translated handler returns (the one `Handle` passes to `AddClosed`)
    is the authentication error when there is one, else ERR_READ_ADDRESS when the address cannot be read, else whatever
    the relay (`proxyConnection`) reports — `none`, which `Handle` reports as "OK", only when the relay ran and ended well. -/
theorem code_status_names_the_outcome
    (ctxDeadline : GoRT.Opaque "context.Context" → Int × Bool) (dial : GoRT.Opaque "transport.FuncStreamDialer")
    (authenticate : Tie.Handle.Conn → String × Tie.Handle.Conn × Option String)
    (req : Tie.Handle.Conn → String × Option String)
    (disc : GoRT.Opaque "io.Writer") (now : Int)
    (relay : GoRT.Opaque "slog.Logger" → GoRT.Opaque "context.Context" → GoRT.Opaque "transport.FuncStreamDialer" → String → Tie.Handle.Conn → Tie.Handle.Conn → Option String)
    (h : Gen.Code.streamHandler) (ctx : GoRT.Opaque "context.Context") (oc : Tie.Handle.Conn)
    (cm : GoRT.Opaque "service.TCPConnMetrics") (pm : Gen.Code.ProxyMetrics) :
    ∃ log, Gen.Code.streamHandler.handleConnection ctxDeadline dial authenticate req disc now relay h ctx oc cm pm =
      some (h, pm,
        (match (authenticate oc).2.2 with
         | some e => some e
         | none => match (req (authenticate oc).2.1).2 with
           | some _ => some "ERR_READ_ADDRESS"
           | none => relay h.logger ctx dial (req (authenticate oc).2.1).1 (authenticate oc).2.1 oc), log) := by
  rw [Tie.Handle.handleConnection_tie]
  cases ha : (authenticate oc).2.2 with
  | some e => exact ⟨_, by rw [Tie.Handle.outcome_refused ha]⟩
  | none =>
    cases hr : (req (authenticate oc).2.1).2 with
    | some e => exact ⟨_, by rw [Tie.Handle.outcome_bad_address ha hr]⟩
    | none => exact ⟨_, by rw [Tie.Handle.outcome_relayed ha hr]⟩

/-- The translated `ssService.HandleStream` (service/shadowsocks.go) never panics and
    logs exactly one call: the stream handler's `Handle` for this connection, with the metrics object
    `AddOpenTCPConnection` returns for it (nil when the service has no metrics).  `AddOpenTCPConnection` is a function
    parameter, not a logged call: how often it is called is not part of this statement (the extractor computes the
    syntactic fact `Gen.Wiring.tcpOpenedOnceBeforeHandle`, which no theorem asserts). -/
theorem code_opened_once_then_handled
    (addOpen : GoRT.Opaque "service.ServiceMetrics" → GoRT.Opaque "net.Conn" → GoRT.Opaque "service.TCPConnMetrics")
    (s : Gen.Code.ssService) (ctx : GoRT.Opaque "context.Context") (conn : Tie.Handle.Conn) :
    ∃ s', Gen.Code.ssService.HandleStream addOpen s ctx conn = some s' ∧
      callsNamed "sh.Handle" s'.eff = callsNamed "sh.Handle" s.eff + 1 ∧ s'.eff.length = s.eff.length + 1 ∧
      s'.eff.getLast? = some { name := "sh.Handle", args := [], vals :=
        [[GoRT.Atom.tok ctx.val], [GoRT.Atom.tok conn.val],
         [GoRT.Atom.tok (if s.metrics ≠ ⟨0⟩ then addOpen s.metrics ⟨conn.val⟩ else ⟨0⟩).val]] } := by
  rw [Tie.Handle.handleStream_tie]
  exact ⟨_, rfl, by simp, by simp, by simp⟩

/-- The translated `streamHandler.Handle` (service/tcp.go) with the translated
    `handleConnection` inside, collaborators being parameters: it never panics; it replaces nil metrics by the no-op
    object and wraps the connection in the counting connection before anything else; the log of `handleConnection` comes
    next, unchanged (no `AddClosed`, no `Close`, at most one `AddAuthenticated`); then EXACTLY ONE `AddClosed`, with "OK"
    when `handleConnection` returned no error and that error's status otherwise; only after that report the connection
    is closed, once. -/
theorem code_closed_once_with_the_real_outcome
    (ctxDeadline : GoRT.Opaque "context.Context" → Int × Bool) (measure : Tie.Handle.Conn → Tie.Handle.Conn) (since : Int → Int)
    (dial : GoRT.Opaque "transport.FuncStreamDialer")
    (authenticate : Tie.Handle.Conn → String × Tie.Handle.Conn × Option String)
    (req : Tie.Handle.Conn → String × Option String)
    (disc : GoRT.Opaque "io.Writer") (noop : GoRT.Opaque "service.TCPConnMetrics") (now : Int)
    (relay : GoRT.Opaque "slog.Logger" → GoRT.Opaque "context.Context" → GoRT.Opaque "transport.FuncStreamDialer" → String → Tie.Handle.Conn → Tie.Handle.Conn → Option String)
    (h : Gen.Code.streamHandler) (ctx : GoRT.Opaque "context.Context") (conn : Tie.Handle.Conn)
    (cm : GoRT.Opaque "service.TCPConnMetrics") :
    ∃ st hlog,
      Gen.Code.streamHandler.handleConnection ctxDeadline dial authenticate req disc now relay h ctx (measure conn)
        (if cm = ⟨0⟩ then noop else cm) Gen.Code.ProxyMetrics.zero = some (h, Gen.Code.ProxyMetrics.zero, st, hlog) ∧
      Gen.Code.streamHandler.Handle ctxDeadline measure since dial authenticate req disc noop now relay h ctx conn cm =
        some (h, [Tie.Handle.measureEff conn] ++ hlog ++
          [Tie.Handle.closedEff (if cm = ⟨0⟩ then noop else cm) (Tie.Handle.statusOf st) (since now), Tie.Handle.closeEff (measure conn)]) ∧
      (Tie.Handle.statusOf st = "OK" ↔ st = none ∨ st = some "OK") ∧
      callsNamed "TCPConnMetrics.AddClosed" hlog = 0 ∧ callsNamed "Conn.Close" hlog = 0 ∧
      callsNamed "TCPConnMetrics.AddAuthenticated" hlog ≤ 1 := by
  rw [Tie.Handle.handleConnection_tie, Tie.Handle.handle_tie]
  refine ⟨_, _, rfl, rfl, Tie.Handle.statusOf_eq_ok _, ?_⟩
  obtain ⟨h3, h4, hno, hyes⟩ := outcome_reports (ctxDeadline ctx) now h.readTimeout (measure conn) (if cm = ⟨0⟩ then noop else cm)
    disc (authenticate (measure conn)) req relay h.logger ctx dial
  refine ⟨h3, h4, ?_⟩
  cases ha : (authenticate (measure conn)).2.2 with
  | some e => rw [(hno e ha).1]; decide
  | none => rw [(hyes ha).1]; decide

/-- the authenticate function a service stores in its handler, read off one run of the translated authenticator at a
    given replay-cache state (a panic of the authenticator would be the status "PANIC": `Tie.Auth.outcome` shows when) -/
def authFnOf (run : Tie.Handle.Conn → Option (Gen.Code.ReplayCache × String × Tie.Handle.Conn × Option String × List GoRT.Eff)) :
    Tie.Handle.Conn → String × Tie.Handle.Conn × Option String :=
  fun c => match run c with
    | some r => (r.2.1, r.2.2.1, r.2.2.2.1)
    | none => ("", ⟨0⟩, some "PANIC")

/-- The translated `Handle` with the translated `handleConnection` inside and
    `authFnOf run` as authenticate function.  `run` has the result type of the translated authenticator
    (`Tie.Auth.outcome`) but is ANY function of that type: the statement does not fix it to be the authenticator.  If
    `run` refuses with status `e`, the whole log is: wrap, arm the deadline, authenticate, `absorbProbe` with `e`,
    `AddClosed` with `e`, close; if it accepts with key id `id`, the log has exactly one `AddAuthenticated`, that of
    `id`, exactly one `AddClosed` and no probe (their order: `code_closed_once_with_the_real_outcome`). -/
theorem code_tcp_connection_end_to_end
    (ctxDeadline : GoRT.Opaque "context.Context" → Int × Bool) (measure : Tie.Handle.Conn → Tie.Handle.Conn) (since : Int → Int)
    (dial : GoRT.Opaque "transport.FuncStreamDialer")
    (run : Tie.Handle.Conn → Option (Gen.Code.ReplayCache × String × Tie.Handle.Conn × Option String × List GoRT.Eff))
    (req : Tie.Handle.Conn → String × Option String)
    (disc : GoRT.Opaque "io.Writer") (noop : GoRT.Opaque "service.TCPConnMetrics") (now : Int)
    (relay : GoRT.Opaque "slog.Logger" → GoRT.Opaque "context.Context" → GoRT.Opaque "transport.FuncStreamDialer" → String → Tie.Handle.Conn → Tie.Handle.Conn → Option String)
    (h : Gen.Code.streamHandler) (ctx : GoRT.Opaque "context.Context") (conn : Tie.Handle.Conn)
    (cm : GoRT.Opaque "service.TCPConnMetrics")
    (rc' : Gen.Code.ReplayCache) (id : String) (c' : Tie.Handle.Conn) (st : Option String) (effs : List GoRT.Eff)
    (hrun : run (measure conn) = some (rc', id, c', st, effs)) :
    ∃ log, Gen.Code.streamHandler.Handle ctxDeadline measure since dial (authFnOf run) req disc noop now relay h ctx conn cm = some (h, log) ∧
      (match st with
       | some e => log = [Tie.Handle.measureEff conn] ++ Tie.Handle.armEffs (ctxDeadline ctx) now h.readTimeout (measure conn) ++
           [Tie.Handle.callAuth (measure conn), Tie.Handle.absorbEff (measure conn) (if cm = ⟨0⟩ then noop else cm) e,
            Tie.Handle.closedEff (if cm = ⟨0⟩ then noop else cm) e (since now), Tie.Handle.closeEff (measure conn)]
       | none => callsNamed "TCPConnMetrics.AddAuthenticated" log = 1 ∧ callsNamed "absorbProbe" log = 0 ∧
           callsNamed "TCPConnMetrics.AddClosed" log = 1 ∧
           Tie.Handle.authEff (if cm = ⟨0⟩ then noop else cm) id ∈ log) := by
  rw [Tie.Handle.handle_tie]
  refine ⟨_, rfl, ?_⟩
  have ha : authFnOf run (measure conn) = (id, c', st) := by simp [authFnOf, hrun]
  rw [ha]
  cases st with
  | some e =>
    simp only [Tie.Handle.outcome_refused (auth := (id, c', some e)) rfl]
    simp [Tie.Handle.statusOf]
  | none =>
    -- the handler's own reports, and around them one `MeasureConn`, one `AddClosed`, one `Close`
    obtain ⟨h3, -, -, hyes⟩ := outcome_reports (ctxDeadline ctx) now h.readTimeout (measure conn) (if cm = ⟨0⟩ then noop else cm)
      disc (id, c', none) req relay h.logger ctx dial
    obtain ⟨h1, h2, h5⟩ := hyes rfl
    simp only [callsNamed_append, h1, h2, h3]
    simp [Tie.Handle.measureEff, Tie.Handle.closedEff, Tie.Handle.closeEff, h5]

/-- a run that refuses with ERR_CIPHER, on a context without deadline: the names of the six calls -/
example : ∃ log, Gen.Code.streamHandler.Handle (fun _ => (0, false)) id (fun t => t + 3) ⟨0⟩
      (authFnOf (fun _ => some (Gen.Code.ReplayCache.zero, "", ⟨0⟩, some "ERR_CIPHER", []))) (fun _ => ("", none)) ⟨0⟩ ⟨1⟩ 100
      (fun _ _ _ _ _ _ => none) Gen.Code.streamHandler.zero ⟨0⟩ ⟨7⟩ ⟨9⟩ = some (Gen.Code.streamHandler.zero, log) ∧
    log.map (·.name) = ["call MeasureConn", "Conn.SetReadDeadline", "call authenticate", "absorbProbe", "TCPConnMetrics.AddClosed", "Conn.Close"] := by
  obtain ⟨log, h1, h2⟩ := code_tcp_connection_end_to_end (fun _ => (0, false)) id (fun t => t + 3) ⟨0⟩
    (fun _ => some (Gen.Code.ReplayCache.zero, "", ⟨0⟩, some "ERR_CIPHER", [])) (fun _ => ("", none)) ⟨0⟩ ⟨1⟩ 100
    (fun _ _ _ _ _ _ => none) Gen.Code.streamHandler.zero ⟨0⟩ ⟨7⟩ ⟨9⟩ Gen.Code.ReplayCache.zero "" ⟨0⟩ (some "ERR_CIPHER") [] rfl
  refine ⟨log, h1, ?_⟩
  simp only at h2
  rw [h2]
  rfl

end OutlineModel.Props.C15
