import OutlineModel.Proofs.TieNatConn
import OutlineModel.Model.NatConn
import OutlineModel.Proofs.NatInv
import OutlineModel.Gen.Consts
/-
C14 — UDP associations live as long as promised and are always reclaimed.

Deadline logic: Model/NatConn (natconn.onWrite / onRead with an explicit clock), tied to the code by
the `natconn` campaign (real natconn over a recording PacketConn, through the `verif` hook) and by
the generated constants (17 s DNS timeout, the "53" port test).  Life-cycle (removed exactly once,
socket closed): Model/UDP, shared with C04/C16.
The shutdown of the packet listener (natmap.Close) has no theorem here, and real-time bounds ("within bounded
time", "promptly") are outside a theorem; the `udp`/`natlife` campaigns observe both.
-/
namespace OutlineModel.Props.C14
open OutlineModel OutlineModel.NatConn

/-- the socket's deadline is the recorded one (`rd`) or already past (the fast close sets the socket's to `now`, not `rd`) -/
def J (c : S) (now : Nat) : Prop :=
  match c.sock with
  | none => c.rd = 0
  | some d => d = c.rd ∨ d ≤ now

theorem J_init (now : Nat) : J init now := by simp [J, init]

theorem J_mono {c : S} {now now' : Nat} (h : J c now) (hm : now ≤ now') : J c now' := by
  unfold J at *
  split at h
  · exact h
  · exact h.imp id (fun h => Nat.le_trans h hm)

theorem J_write (c : S) (dns : Bool) (now now' timeout dnsTimeout : Nat) (h : J c now) (hm : now ≤ now') (hpos : 0 < now') :
    J (onWrite c dns now' timeout dnsTimeout).1 now' := by
  unfold onWrite
  simp only
  generalize (if dns = true then dnsTimeout else timeout) = t
  split
  · exact .inl rfl
  · exact J_mono h hm

theorem J_read (c : S) (dns : Bool) (now now' : Nat) (h : J c now) (hm : now ≤ now') :
    J (onRead c dns now').1 now' := by
  unfold onRead
  split
  · split
    · exact .inr (Nat.le_refl _)
    · exact J_mono h hm
  · exact J_mono h hm

/-- A client datagram handled at time `now` on an association that is new, or whose
    socket deadline has not passed yet, leaves the socket deadline at least `now + timeout` for a
    non-DNS destination and at least `now + 17 s` (generated constant) for a DNS destination —
    for ANY configured timeout (also below 17 s), in any state that satisfies `J`. -/
theorem promise_kept (c : S) (dns : Bool) (now timeout : Nat) (h : J c now) (hpos : 0 < now)
    (alive : c.sock = none ∨ ∃ d, c.sock = some d ∧ now < d) :
    ∃ d, (onWrite c dns now timeout Gen.dnsTimeoutNs).1.sock = some d ∧
      now + (if dns then Gen.dnsTimeoutNs else timeout) ≤ d := by
  unfold J at h
  unfold onWrite
  by_cases hc : now + (if dns = true then Gen.dnsTimeoutNs else timeout) > c.rd
  · simp only [hc, if_true]
    exact ⟨_, rfl, Nat.le_refl _⟩
  · simp only [hc, if_false]
    rcases alive with hn | ⟨d, hd, hlt⟩
    · simp [hn] at h
      omega
    · simp [hd] at h
      refine ⟨d, hd, ?_⟩
      omega

/-- A client datagram on an association whose deadline has not passed
    never moves the socket deadline earlier.  (The statement is about `onWrite`; the step that sets it to `now`,
    `onRead`'s fast close, is not in it.) -/
theorem deadline_monotone_except_fastclose (c : S) (dns : Bool) (now timeout dnsTimeout : Nat) (d d' : Nat)
    (h : J c now) (hd : c.sock = some d) (hnow : now < d)
    (hd' : (onWrite c dns now timeout dnsTimeout).1.sock = some d') : d ≤ d' := by
  unfold J at h
  unfold onWrite at hd'
  simp [hd] at h
  by_cases hc : now + (if dns = true then dnsTimeout else timeout) > c.rd
  · simp [hc] at hd'; omega
  · simp [hc, hd] at hd'; omega

/-- the first conjunct lets the code's test for a first write, `readDeadline.IsZero()`, stand for "nothing written yet"
    (it needs times > 0); the second is the latch part of `fastclose_exactly` -/
def A (c : S) : Prop :=
  (c.rd = 0 → c.writes = 0) ∧ (c.armed = true → c.writes = c.dnsWrites ∧ c.writes ≤ 1 ∧ c.fired = false)

theorem A_init : A init := by simp [A, init]

theorem A_write {c : S} {dns : Bool} {now timeout dnsTimeout : Nat} (h : A c) (hpos : 0 < now) :
    A (onWrite c dns now timeout dnsTimeout).1 := by
  obtain ⟨h1, h2⟩ := h
  unfold A onWrite
  -- whether or not the deadline moves, one is recorded afterwards (`now > 0`); the latch survives only a write to the
  -- DNS port with `rd = 0`, where `h1` gives `writes = 0`
  by_cases hc : now + (if dns = true then dnsTimeout else timeout) > c.rd
  all_goals
    simp only [hc, if_true, if_false]
    refine ⟨fun h => by omega, fun ha => ?_⟩
    by_cases hd : dns = true <;> by_cases h0 : c.rd = 0 <;> simp [hd, h0] at ha ⊢
    exact ⟨(h2 ha).1, h1 h0, (h2 ha).2.2⟩

theorem A_read {c : S} {dns : Bool} {now : Nat} (h : A c) : A (onRead c dns now).1 := by
  unfold onRead
  split
  · split <;> exact ⟨h.1, nofun⟩
  · exact h

theorem A_run (timeout dnsTimeout : Nat) (ops : List Op) (hpos : ∀ o ∈ ops, 0 < o.now) {s : S} (h : A s) :
    A (run timeout dnsTimeout s ops) := by
  induction ops generalizing s with
  | nil => exact h
  | cons o os ih =>
    apply ih (fun o' ho' => hpos o' (List.mem_cons_of_mem _ ho'))
    cases o with
    | write d n => exact A_write h (hpos _ List.mem_cons_self)
    | read d n => exact A_read h

/-- In the state after any history (times > 0) from `init`, a response makes the
    association expire at once (`fired` goes from false to true) iff the latch is still armed and the
    response comes from the DNS port; and the latch is armed only if the association's whole client
    traffic was at most one datagram, sent to the DNS port. -/
theorem fastclose_exactly (timeout dnsTimeout : Nat) (ops : List Op) (hpos : ∀ o ∈ ops, 0 < o.now) (dns : Bool) (now : Nat) :
    let c := run timeout dnsTimeout init ops
    ((onRead c dns now).1.fired = true ∧ c.fired = false ↔ (c.armed = true ∧ dns = true)) ∧
    (c.armed = true → c.writes = c.dnsWrites ∧ c.writes ≤ 1) := by
  intro c
  obtain ⟨_, h2⟩ : A c := A_run timeout dnsTimeout ops hpos A_init
  refine ⟨?_, fun ha => ⟨(h2 ha).1, (h2 ha).2.1⟩⟩
  unfold onRead
  by_cases ha : c.armed = true <;> by_cases hd : dns = true <;> simp [ha, hd]
  · exact (h2 ha).2.2

/-- The copier's exit (`UDP.expire`) on a live association reports one RemoveNatEntry, a
    second exit for the same client nothing; the statement of `C16.removed_exactly_once`. -/
theorem removed_exactly_once (st : UDP.State) (inv : UDP.NatInv st) (client : String) :
    (UDP.expire (UDP.expire st client).1 client).2 = [] ∧
    ((UDP.lookupNat st.nat client).isSome → ∃ s, (UDP.expire st client).2 = [.natRemove client s]) :=
  UDP.expire_once st client

/-- That exit takes the client's entry out of the table and closes the association's
    socket. -/
theorem socket_closed_and_entry_removed (st : UDP.State) (client : String) (a : UDP.Assoc)
    (h : UDP.lookupNat st.nat client = some a) :
    UDP.lookupNat (UDP.expire st client).1.nat client = none ∧ a.sock ∈ (UDP.expire st client).1.closedSocks := by
  rw [UDP.expire_some h]
  exact ⟨UDP.lookupNat_filter_self _ _, List.mem_cons_self⟩

/-- the 17 s and the port "53" of the property (service/udp.go) and the 5 min default timeout (service/shadowsocks.go),
    as regenerated: a change in the source fails here -/
theorem constants : Gen.dnsTimeoutNs = 17000000000 ∧ Gen.dnsPort = "53" ∧ Gen.defaultNatTimeoutNs = 300000000000 := by
  decide +kernel

example : (onRead (onWrite init true 5 300 17).1 true 6).1.fired = true := by decide +kernel
example : (onRead (onWrite (onWrite init true 5 300 17).1 true 6 300 17).1 true 7).1.fired = false := by decide +kernel


/-! `Gen.Code.natconn.onWrite` / `.onRead` are translated from service/udp.go on every run (extract/golean.go);
`SetReadDeadline` calls are recorded in the `eff` field, `time.Now()` is the parameter `now`, `isDNS` is a
parameter.  `Tie.NatConn.R` relates a translated association to a model state: the configured timeout, same deadline, same latch,
same last deadline set on the socket. -/

theorem code_onWrite_refines_model (isDNS : GoRT.Opaque "net.Addr" → Bool) (now timeout : Nat) (c : Gen.Code.natconn) (s : S)
    (addr : GoRT.Opaque "net.Addr") (hR : Tie.NatConn.R timeout c s) :
    ∃ c', Gen.Code.natconn.onWrite isDNS (now : Int) c addr = some c' ∧
      Tie.NatConn.R timeout c' (onWrite s (isDNS addr) now timeout Gen.dnsTimeoutNs).1 ∧
      c'.eff = c.eff ++ Tie.NatConn.effOf (onWrite s (isDNS addr) now timeout Gen.dnsTimeoutNs).2 :=
  Tie.NatConn.onWrite_tie isDNS now timeout c s addr hR

theorem code_onRead_refines_model (isDNS : GoRT.Opaque "net.Addr" → Bool) (now timeout : Nat) (c : Gen.Code.natconn) (s : S)
    (addr : GoRT.Opaque "net.Addr") (hR : Tie.NatConn.R timeout c s) :
    ∃ c', Gen.Code.natconn.onRead isDNS (now : Int) c addr = some c' ∧
      Tie.NatConn.R timeout c' (onRead s (isDNS addr) now).1 ∧
      c'.eff = c.eff ++ Tie.NatConn.effOf (onRead s (isDNS addr) now).2 :=
  Tie.NatConn.onRead_tie isDNS now timeout c s addr hR

/-- `promise_kept` about the translated `onWrite`, from a state related (`R`) to a model state
    under the hypotheses of `promise_kept`: it does not panic, and the last `SetReadDeadline` recorded afterwards is at
    least `now + timeout` for a non-DNS destination and at least `now + 17 s` for a DNS one. -/
theorem code_promise_kept (isDNS : GoRT.Opaque "net.Addr" → Bool) (now timeout : Nat) (c : Gen.Code.natconn) (s : S)
    (addr : GoRT.Opaque "net.Addr") (hR : Tie.NatConn.R timeout c s) (hJ : J s now) (hpos : 0 < now)
    (alive : s.sock = none ∨ ∃ d, s.sock = some d ∧ now < d) :
    ∃ (c' : Gen.Code.natconn) (d : Nat), Gen.Code.natconn.onWrite isDNS (now : Int) c addr = some c' ∧
      Tie.NatConn.lastSet c'.eff = some (d : Int) ∧
      (now + (if isDNS addr then Gen.dnsTimeoutNs else timeout) : Nat) ≤ d := by
  obtain ⟨c', h1, ⟨-, -, -, hsock⟩, -⟩ := Tie.NatConn.onWrite_tie isDNS now timeout c s addr hR
  obtain ⟨d, hd1, hd2⟩ := promise_kept s (isDNS addr) now timeout hJ hpos alive
  refine ⟨c', d, h1, ?_, hd2⟩
  rw [hsock, hd1]; rfl

example : Tie.NatConn.R 300 { Gen.Code.natconn.zero with defaultTimeout := 300 } init :=
  Tie.NatConn.R_init 300


/-- Every history of translated `onWrite` / `onRead` calls on a fresh association never
    panics and stays in the simulation relation with the model's run of the same history: after it, the deadline field,
    the latch and the LAST deadline set on the socket are the model's.  This is what carries the latch half of
    `fastclose_exactly` (the invariant `A`) over to the code (`code_fastclose_latch`). -/
theorem code_history_refines_model (isDNS : GoRT.Opaque "net.Addr" → Bool) (timeout : Nat) (os : List Tie.NatConn.COp) :
    ∃ c', Tie.NatConn.codeRun isDNS { Gen.Code.natconn.zero with defaultTimeout := (timeout : Int) } os = some c' ∧
      Tie.NatConn.R timeout c' (run timeout Gen.dnsTimeoutNs init (os.map (Tie.NatConn.absOp isDNS))) :=
  Tie.NatConn.codeRun_sim isDNS timeout os _ _ (Tie.NatConn.R_init timeout)

/-- After any history of translated calls (times > 0), the latch of the translated association is
    still armed (`fastClose = false`) only if its whole client traffic was at most one datagram, to the DNS port -/
theorem code_fastclose_latch (isDNS : GoRT.Opaque "net.Addr" → Bool) (timeout : Nat) (os : List Tie.NatConn.COp)
    (hpos : ∀ o ∈ os.map (Tie.NatConn.absOp isDNS), 0 < o.now) :
    ∃ c', Tie.NatConn.codeRun isDNS { Gen.Code.natconn.zero with defaultTimeout := (timeout : Int) } os = some c' ∧
      (c'.fastClose = false →
        (run timeout Gen.dnsTimeoutNs init (os.map (Tie.NatConn.absOp isDNS))).writes =
          (run timeout Gen.dnsTimeoutNs init (os.map (Tie.NatConn.absOp isDNS))).dnsWrites ∧
        (run timeout Gen.dnsTimeoutNs init (os.map (Tie.NatConn.absOp isDNS))).writes ≤ 1) := by
  obtain ⟨c', h1, -, -, hlatch, -⟩ := code_history_refines_model isDNS timeout os
  refine ⟨c', h1, fun hf => ?_⟩
  -- `R`: `fastClose = !armed`, so the model's latch is armed too, and `A` says what that means
  obtain ⟨hw, hle, -⟩ := (A_run timeout Gen.dnsTimeoutNs _ hpos A_init).2 (by simpa [hf] using hlatch)
  exact ⟨hw, hle⟩

/-- The translated `natconn.WriteTo` and `natconn.ReadFrom`
    (service/udp.go), for every socket behaviour: `WriteTo` is `onWrite` for the destination, then the write on the
    association's wrapped socket (so the deadline of `code_promise_kept` is set before the datagram leaves); a `ReadFrom`
    that FAILS leaves the association as it was (no deadline touched, latch not consumed), one that succeeds runs
    `onRead` for the datagram's source; both hand the socket's answer through unchanged. -/
theorem code_every_write_and_read_goes_through_the_bookkeeping
    (w : GoRT.Opaque "net.PacketConn" → List UInt8 → GoRT.Opaque "net.Addr" → Int × Option String)
    (rd : GoRT.Opaque "net.PacketConn" → List UInt8 → Int × GoRT.Opaque "net.Addr" × Option String)
    (isDNS : GoRT.Opaque "net.Addr" → Bool) (now : Int) (c : Gen.Code.natconn) (buf : List UInt8) (dst : GoRT.Opaque "net.Addr") :
    Gen.Code.natconn.WriteTo w isDNS now c buf dst =
      (Gen.Code.natconn.onWrite isDNS now c dst).map (fun c' => (c', w c'.PacketConn buf dst)) ∧
    ((rd c.PacketConn buf).2.2 ≠ none → Gen.Code.natconn.ReadFrom rd isDNS now c buf = some (c, rd c.PacketConn buf)) ∧
    ((rd c.PacketConn buf).2.2 = none → Gen.Code.natconn.ReadFrom rd isDNS now c buf =
      (Gen.Code.natconn.onRead isDNS now c (rd c.PacketConn buf).2.1).map (fun c' => (c', rd c.PacketConn buf))) := by
  rw [Tie.NatConn.readFrom_tie]
  exact ⟨Tie.NatConn.writeTo_tie w isDNS now c buf dst, fun h => if_neg h, fun h => if_pos h⟩

/-- A whole `WriteTo` of the translated code, started in a state related to the model's,
    never panics, ends in a state related to the model's `onWrite`, and has recorded exactly the model's deadline calls. -/
theorem code_write_refines_model
    (w : GoRT.Opaque "net.PacketConn" → List UInt8 → GoRT.Opaque "net.Addr" → Int × Option String)
    (isDNS : GoRT.Opaque "net.Addr" → Bool) (now timeout : Nat) (c : Gen.Code.natconn) (s : S) (buf : List UInt8)
    (dst : GoRT.Opaque "net.Addr") (hR : Tie.NatConn.R timeout c s) :
    ∃ c' res, Gen.Code.natconn.WriteTo w isDNS (now : Int) c buf dst = some (c', res) ∧
      Tie.NatConn.R timeout c' (onWrite s (isDNS dst) now timeout Gen.dnsTimeoutNs).1 ∧
      c'.eff = c.eff ++ Tie.NatConn.effOf (onWrite s (isDNS dst) now timeout Gen.dnsTimeoutNs).2 := by
  obtain ⟨c', h1, h2, h3⟩ := code_onWrite_refines_model isDNS now timeout c s dst hR
  exact ⟨c', _, by rw [Tie.NatConn.writeTo_tie, h1]; rfl, h2, h3⟩

end OutlineModel.Props.C14
