import OutlineModel.Props.C04
import OutlineModel.Gen.Decisions
/-
C16 — UDP metrics match the datagrams actually relayed (handler side).

The effect list of the model contains every UDPMetrics / UDPConnMetrics call with its arguments
(`natAdd` = AddUDPNatEntry, `report` = AddPacketFromClient, `fromTarget` = AddPacketFromTarget,
`natRemove` = RemoveNatEntry) next to the socket effects (`send`, `toClient`), so "reported = what
happened on the sockets" is a statement about one list.  The model is Model/UDP (shared with
C03/C04/C14), tied to service/udp.go by the `udp` campaign.
-/
namespace OutlineModel.Props.C16
open OutlineModel OutlineModel.UDP OutlineModel.CipherList OutlineModel.Socks

def isReport : Eff → Bool | .report _ _ _ => true | _ => false
def isSend : Eff → Bool | .send _ _ _ _ => true | _ => false
def isNatAdd : Eff → Bool | .natAdd _ _ _ => true | _ => false
def isNatRemove : Eff → Bool | .natRemove _ _ => true | _ => false
def isPanic : Eff → Bool | .panic _ => true | _ => false

variable (dnsPort : Nat) (ki : KeyInfo) (validate : List UInt8 → IP.Verdict) (resolve : Target → Resolved)

/-- A client datagram is reported (AddPacketFromClient) exactly once
    when it creates or arrives on an association, and not at all otherwise; the report carries the
    wire size and the payload size actually written to the target — "OK" exactly when a datagram
    was written, an error status and 0 bytes otherwise. -/
theorem client_packet_reported_once (st : State) (client : String) (cip : Option Nat) (wire : Nat) (opens : List Nat)
    (plain : List UInt8) (res : State × List Eff)
    (hres : upstream dnsPort ki validate resolve st client cip wire opens plain = res) :
    (res.2.filter isReport).length = (if (lookupNat st.nat client).isSome ∨ (res.2.any isNatAdd) then 1 else 0) ∧
    (∀ status w sent, Eff.report status w sent ∈ res.2 →
        w = wire ∧ ((∃ sock ip port payload, Eff.send sock ip port payload ∈ res.2 ∧ sent = payload.length ∧ status = "OK") ∨
                    (sent = 0 ∧ status ≠ "OK" ∧ res.2.any isSend = false))) := by
  rcases upstream_cases validate resolve dnsPort ki st client cip wire opens plain with
    ⟨hn, _, h⟩ | ⟨hn, _, _, _, h⟩ | ⟨hn, _, _, pl, ip, port, _, _, _, h⟩ | ⟨a, hn, _, pl, ip, port, _, h⟩ |
    ⟨_, hn, _, _, _, hs, h⟩ | ⟨_, hn, _, h⟩
  -- the effects are an explicit list in each case: the count is read off it, and so is the one `report` it may contain
  -- (the last four cases: "OK" beside the `send` of the payload, or an error status and no `send`)
  all_goals
    rw [h] at hres
    subst hres
    refine ⟨by simp [hn, List.filter, isReport, isNatAdd], fun status w sent hm => ?_⟩
    simp at hm
  all_goals obtain ⟨rfl, rfl, rfl⟩ := hm
  · exact ⟨rfl, .inl ⟨st.nextSock, ip, port, pl, by simp, rfl, rfl⟩⟩
  · exact ⟨rfl, .inl ⟨a.sock, ip, port, pl, by simp, rfl, rfl⟩⟩
  · exact ⟨rfl, .inr ⟨rfl, hs, by simp [isSend]⟩⟩
  · exact ⟨rfl, .inr ⟨rfl, by decide, by simp [isSend]⟩⟩

/-- AddUDPNatEntry is called with the client address of the
    datagram and the id of a configured entry whose key opened it. -/
theorem association_added_with_auth_key (st : State) (client : String) (cip : Option Nat) (wire : Nat) (opens : List Nat)
    (plain : List UInt8) (cl id : String) (sock : Nat)
    (h : Eff.natAdd cl id sock ∈ (upstream dnsPort ki validate resolve st client cip wire opens plain).2) :
    cl = client ∧ ∃ e ∈ st.list, opens.contains e.key = true ∧ e.id = id :=
  -- `upstream` reads neither buffer size of the configuration
  have ⟨hcl, _, _, he, _⟩ := C04.created_only_authenticated
    { dnsPort := dnsPort, bufSize := 0, maxAddrLen := 0, ki := ki, validate := validate } resolve st client cip wire opens plain cl id sock h
  ⟨hcl, he⟩

/-- A datagram read on an association's socket whose relay does not panic
    (`C18.target_reply_any_size_never_panics`) is reported (AddPacketFromTarget) exactly once with its body
    size, together with at most one datagram written to the client whose wire size is the one reported (0
    when nothing was written). -/
theorem target_packet_reported_once (bufSize maxAddrLen : Nat) (a : Assoc) (srcIP : List UInt8) (srcPort : Nat) (body : List UInt8)
    (hnp : (relayReply bufSize maxAddrLen a srcIP srcPort body).any isPanic = false) :
    (∃ w, relayReply bufSize maxAddrLen a srcIP srcPort body =
        [.toClient a.client a.key (encodeIP srcIP srcPort ++ body) w, .fromTarget "OK" body.length w]) ∨
    relayReply bufSize maxAddrLen a srcIP srcPort body = [.fromTarget "ERR_PACK" body.length 0] := by
  rcases relayReply_cases bufSize maxAddrLen a srcIP srcPort body with ⟨p, h⟩ | h | h
  · rw [h] at hnp; cases hnp
  · exact .inr h
  · exact .inl h

def countP (p : Eff → Bool) (l : List Eff) : Nat := (l.filter p).length

theorem countP_append (p : Eff → Bool) (a b : List Eff) : countP p (a ++ b) = countP p a + countP p b := by
  simp [countP]

theorem relayReply_counts (bufSize maxAddrLen : Nat) (a : Assoc) (srcIP : List UInt8) (srcPort : Nat) (body : List UInt8) :
    countP isNatAdd (relayReply bufSize maxAddrLen a srcIP srcPort body) = 0 ∧
    countP isNatRemove (relayReply bufSize maxAddrLen a srcIP srcPort body) = 0 := by
  rcases relayReply_cases bufSize maxAddrLen a srcIP srcPort body with ⟨_, h⟩ | h | ⟨_, h⟩ <;> rw [h] <;> exact ⟨rfl, rfl⟩

/-- a refused send drops the `send` and rewrites the `report`: a count that looks at neither is unchanged -/
theorem countP_failSend (p : Eff → Bool) (hs : ∀ a b c d, p (.send a b c d) = false)
    (hr : ∀ s w n s' w' n', p (.report s w n) = p (.report s' w' n')) (effs : List Eff) :
    countP p (failSend effs) = countP p effs := by
  unfold countP failSend
  rw [← List.countP_eq_length_filter, ← List.countP_eq_length_filter, List.countP_filterMap]
  congr 1
  funext e
  cases e with
  | send => exact (hs ..).symm
  | report s w n => simp only [Option.map_some, Option.getD_some]; split <;> exact hr ..
  | _ => rfl

theorem upstream_balance (st : State) (client : String) (cip : Option Nat) (wire : Nat) (opens : List Nat) (plain : List UInt8) :
    countP isNatAdd (upstream dnsPort ki validate resolve st client cip wire opens plain).2 + st.nat.length =
      countP isNatRemove (upstream dnsPort ki validate resolve st client cip wire opens plain).2 +
        (upstream dnsPort ki validate resolve st client cip wire opens plain).1.nat.length := by
  rcases upstream_cases validate resolve dnsPort ki st client cip wire opens plain with
    ⟨_, _, h⟩ | ⟨_, _, _, _, h⟩ | ⟨_, _, _, _, _, _, _, _, _, h⟩ | ⟨_, _, _, _, _, _, _, h⟩ | ⟨_, _, _, _, _, _, h⟩ | ⟨_, _, _, h⟩ <;>
    rw [h] <;> simp [countP, List.filter, isNatAdd, isNatRemove, length_updateAssoc] <;> omega

theorem step_balance (c : Cfg) (st : State) (inv : NatInv st) (o : UDP.Op) :
    countP isNatAdd (stepOp c st o).2 + st.nat.length = countP isNatRemove (stepOp c st o).2 + (stepOp c st o).1.nat.length := by
  cases o with
  | pkt client cip wire opens plain resolve => exact upstream_balance ..
  | pktFail client cip wire opens plain resolve =>
    -- the state is that of the successful send, and so are the two counts
    simp only [stepOp]
    rw [countP_failSend _ (fun _ _ _ _ => rfl) (fun _ _ _ _ _ _ => rfl), countP_failSend _ (fun _ _ _ _ => rfl) (fun _ _ _ _ _ _ => rfl)]
    exact upstream_balance ..
  | reply client srcIP srcPort body =>
    simp only [stepOp]
    cases hn : lookupNat st.nat client with
    | none => rfl
    | some a =>
      have hrel := relayReply_counts c.bufSize c.maxAddrLen a srcIP srcPort body
      have hlen := List.length_filter_key_ne Assoc.client inv.clients_nodup (lookupNat_some hn).1
      rcases downstream_cases c.dnsPort c.bufSize c.maxAddrLen st a srcIP srcPort body with h | h | h <;>
        simp only [h, countP_append, hrel.1, hrel.2]
      · simp [countP, List.filter, isNatAdd, isNatRemove]; omega
      · simp [length_updateAssoc]
  | expire client =>
    simp only [stepOp]
    cases hn : lookupNat st.nat client with
    | none => rw [expire_none hn]; rfl
    | some a =>
      obtain ⟨ham, rfl⟩ := lookupNat_some hn
      have := List.length_filter_key_ne Assoc.client inv.clients_nodup ham
      rw [expire_some hn]
      simp [countP, List.filter, isNatAdd, isNatRemove]
      omega
  | update l => rfl

theorem trace_balance (c : Cfg) (ops : List UDP.Op) {st : State} (inv : NatInv st) :
    countP isNatAdd (trace c st ops) + st.nat.length = countP isNatRemove (trace c st ops) + (UDP.run c st ops).nat.length := by
  induction ops generalizing st with
  | nil => rfl
  | cons o os ih =>
    simp only [trace, UDP.run, countP_append]
    have h1 := step_balance c st inv o
    have h2 := ih (inv.stepOp c o)
    omega

/-- Over every history from the initial state, the number of associations
    reported added equals the number reported removed plus the number still in the table (so as many
    removed as added whenever the table is empty).  The statement counts; it does not pair a removal
    with its addition. -/
theorem added_minus_removed_is_live (c : Cfg) (l : List Entry) (ops : List UDP.Op) :
    countP isNatAdd (trace c (UDP.init l) ops) =
      countP isNatRemove (trace c (UDP.init l) ops) + (UDP.run c (UDP.init l) ops).nat.length :=
  trace_balance c ops (NatInv.init l)

/-- A copier's exit (`expire`) on a live association reports exactly one RemoveNatEntry,
    for that client; a second exit for the same client reports nothing. -/
theorem removed_exactly_once (st : State) (inv : NatInv st) (client : String) :
    (expire (expire st client).1 client).2 = [] ∧
    ((lookupNat st.nat client).isSome → ∃ s, (expire st client).2 = [.natRemove client s]) :=
  expire_once st client

/-- The status literals of service/udp.go, as a regenerated table:
    those of `Model/UDP` (ERR_CIPHER, ERR_READ_ADDRESS, ERR_RESOLVE_ADDRESS, ERR_ADDRESS_INVALID,
    ERR_PACK; ERR_ADDRESS_PRIVATE and OK come from the policy and the success path) and three that
    only an operating-system failure produces: ERR_READ and ERR_CREATE_SOCKET, which the model does not
    have, and ERR_WRITE, which it has only as the refused send of `UDP.failSend`.  A status added or
    renamed in the source changes the table and fails here. -/
theorem status_alphabet_as_modelled :
    Gen.Decisions.udpStatuses = ["ERR_ADDRESS_INVALID", "ERR_CIPHER", "ERR_CREATE_SOCKET", "ERR_PACK", "ERR_READ", "ERR_READ_ADDRESS",
      "ERR_RESOLVE_ADDRESS", "ERR_WRITE"] := by decide +kernel

/-- The status the translated `packetHandler.validatePacket` (service/udp.go)
    gives a client datagram — the one `Handle` then reports with AddPacketFromClient — for every behaviour of its
    collaborators, given that the header `SplitAddr` returns is no longer than the text (`hpre`; the code slices the
    text at that length): ERR_READ_ADDRESS when no address header could be split off, else ERR_RESOLVE_ADDRESS when the
    resolver failed, else what ensureConnectionError (default ERR_ADDRESS_INVALID) makes of the validator's verdict
    when the resolved IP was rejected, else no error; the three literals are in the regenerated status table. -/
theorem code_packet_status_names_outcome
    (addrString : List UInt8 → String) (resolveC : String → String → Tie.ValidatePacket.UAddr × Option String)
    (split : List UInt8 → List UInt8) (ensure : Option String → String → String → Option String)
    (validator : List UInt8 → Option String) (ipOf : Tie.ValidatePacket.UAddr → List UInt8)
    (h : Gen.Code.packetHandler) (text : List UInt8) (hpre : (split text).length ≤ text.length) :
    (∃ payload addr, Gen.Code.packetHandler.validatePacket addrString resolveC split ensure validator ipOf h text =
      some (h, payload, addr,
        if split text = [] then some "ERR_READ_ADDRESS"
        else if (resolveC "udp" (addrString (split text))).2 ≠ none then some "ERR_RESOLVE_ADDRESS"
        else if validator (ipOf (resolveC "udp" (addrString (split text))).1) ≠ none then
          ensure (validator (ipOf (resolveC "udp" (addrString (split text))).1)) "ERR_ADDRESS_INVALID" "invalid address"
        else none)) ∧
    "ERR_READ_ADDRESS" ∈ Gen.Decisions.udpStatuses ∧ "ERR_RESOLVE_ADDRESS" ∈ Gen.Decisions.udpStatuses ∧
      "ERR_ADDRESS_INVALID" ∈ Gen.Decisions.udpStatuses := by
  refine ⟨?_, by decide +kernel⟩
  rw [Tie.ValidatePacket.validatePacket_tie (hpre := hpre) .., ← Tie.ValidatePacket.decide'_status]
  exact ⟨_, _, rfl⟩

end OutlineModel.Props.C16
