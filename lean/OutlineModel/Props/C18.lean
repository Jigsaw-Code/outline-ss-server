import OutlineModel.Proofs.UDP
import OutlineModel.Proofs.SSStream
import OutlineModel.Proofs.Shared
import OutlineModel.Props.C15
import OutlineModel.Props.C16
import OutlineModel.Gen.Wiring
import OutlineModel.Gen.Consts
/-
C18 — No network input can crash the server or leak its resources.

What a theorem can carry here is the part that is logic: the models of the byte-level code paths
make every index and slice expression explicit (`Socks.idx`, `Socks.slice`, the in-place buffer
arithmetic of timedCopy) and return a `.panic` effect where Go would panic — the theorems show that
no input reaches one; the connection/association/listener state machines end every history with
their resources released (C15 closed-once, C16 added = removed + live, C12 last close releases);
and regenerated wiring facts state the containment the source provides (handlers joined and wrapped
in recover, per-datagram recover, the relay's helper goroutine joined, the NAT goroutine's cleanup).
The models are tied to the code by the udp / tcp / shared campaigns of C02..C16; the `life` campaign
attacks the real server as a child process (raw bytes, malformed authenticated headers, oversized
and corrupt chunks, aborts at every stage; targets that reset, close, stay silent, flood, answer
with datagrams of every size up to the maximum, from other sources, several times) and checks
liveness, recovered-panic log records, continued service, goroutines and descriptors.
What no model here exhibits: the Go runtime (stack growth, allocation failure), the kernel, and
code paths outside the modelled ones (logging, metrics collectors): observed only.
-/
namespace OutlineModel.Props.C18
open OutlineModel OutlineModel.UDP OutlineModel.Socks

def isPanic : Eff → Bool
  | .panic _ => true
  | _ => false

/-- On EVERY byte string the SOCKS address splitter either rejects it or returns
    a length within the input, and decoding exactly that many bytes never indexes out of range
    (all address type bytes, zero-length and 255-byte domains, truncated headers). -/
theorem address_parser_total (b : List UInt8) :
    splitAddrLen b = none ∨ ∃ n, splitAddrLen b = some n ∧ n ≤ b.length ∧ ∃ r, decode (b.take n) = .ok r := by
  cases h : splitAddrLen b with
  | none => exact Or.inl rfl
  | some n =>
    obtain ⟨tgt, hd⟩ := decode_split b n h
    exact Or.inr ⟨n, rfl, (splitAddrLen_bounds b n h).1, _, hd⟩

/-- `validatePacket` returns a result (a payload or an error status) on every
    authenticated plaintext, for every validator and resolver: it never panics. -/
theorem datagram_validation_total (validate : List UInt8 → IP.Verdict) (resolve : Target → Resolved) (text : List UInt8) :
    ∃ r, validatePacket validate resolve text = .ok r :=
  validatePacket_no_panic validate resolve text

/-- Handling ANY datagram from a client, in any state, produces no panic
    effect (new client or known association, any key, any plaintext). -/
theorem client_datagram_never_panics (dnsPort : Nat) (ki : KeyInfo) (validate : List UInt8 → IP.Verdict) (resolve : Target → Resolved)
    (st : State) (client : String) (cip : Option Nat) (wire : Nat) (opens : List Nat) (plain : List UInt8) :
    ((upstream dnsPort ki validate resolve st client cip wire opens plain).2.any isPanic) = false := by
  rcases upstream_cases validate resolve dnsPort ki st client cip wire opens plain with
    ⟨-, -, h⟩ | ⟨-, _, _, -, h⟩ | ⟨-, _, _, _, _, _, -, -, -, h⟩ | ⟨_, -, -, _, _, _, -, h⟩ | ⟨_, -, -, _, -, -, h⟩ | ⟨_, -, -, h⟩ <;>
    rw [h] <;> simp [isPanic]

/-- For EVERY reply the kernel can deliver into the read buffer
    (any length up to the room after the reserved header space) from a source whose address header
    fits the reserved room (IPv4 and IPv6 do: `buffer_constants`), no slice of timedCopy's in-place
    layout goes out of range.  (The result is then a relayed datagram or ERR_PACK:
    `C16.target_packet_reported_once`.) -/
theorem target_reply_any_size_never_panics (bufSize maxAddrLen : Nat) (a : Assoc) (srcIP : List UInt8) (srcPort : Nat) (body : List UInt8)
    (hal : (encodeIP srcIP srcPort).length ≤ maxAddrLen) (hbuf : a.saltSize + maxAddrLen ≤ bufSize)
    (hread : body.length ≤ bufSize - (a.saltSize + maxAddrLen)) :
    ((relayReply bufSize maxAddrLen a srcIP srcPort body).any isPanic) = false := by
  rw [relayReply_eq bufSize maxAddrLen a srcIP srcPort body hal (by omega)]
  split <;> simp [isPanic]

/-- the generated constants satisfy the hypotheses: the reserved room holds the longest address header
    (IPv6: 19 bytes) and the largest salt (32) fits the 64 KiB buffer -/
theorem buffer_constants : Gen.serverUDPBufferSize = 65536 ∧ 19 ≤ Gen.maxAddrLen ∧ 32 + Gen.maxAddrLen ≤ Gen.serverUDPBufferSize := by
  decide +kernel

/-- A Shadowsocks stream cut anywhere inside a chunk decodes to an error after
    exactly the preceding chunks, not to partial data.  (No crash case: by construction, the model's
    `SSStream.decode` has no panic outcome.) -/
theorem stream_reader_total {a : SSStream.AEAD} (hc : a.Correct) (saltSize : Nat) (salt : List UInt8) (hs : salt.length = saltSize)
    (init : List (List UInt8)) (last : List UInt8) (hinit : ∀ c ∈ init, c.length ≤ 16383) (hlast : last.length ≤ 16383)
    (k : Nat) (hlo : (SSStream.encode a salt init).length < k) (hhi : k < (SSStream.encode a salt (init ++ [last])).length) :
    ∃ why, SSStream.decode a saltSize ((SSStream.encode a salt (init ++ [last])).take k) = .error init.flatten why :=
  SSStream.truncated_is_error hc saltSize salt hs init last hinit hlast k hlo hhi

/-- Whatever the client sends and however the target behaves, the
    handler's effects contain exactly one `closed` (`C15.closed_exactly_once`, restated): a failure is an
    outcome of that one connection, reported and over. -/
theorem every_connection_ends_closed_once (c : TCP.Cfg) (st : Auth.AuthState) (valid : Nat → Bool) (srvSalt : CipherList.Entry → Bool)
    (hash : CipherList.Entry → UInt32) (greeting : Nat → List UInt8) (s : TCP.Script) :
    ((TCP.handle c st s valid srvSalt hash greeting).2.filter C15.isClosed).length = 1 :=
  C15.closed_exactly_once c st valid srvSalt hash greeting s

/-- Over any history of datagrams, replies and expiries, associations added
    = removed + live (`C16.added_minus_removed_is_live`, restated). -/
theorem associations_do_not_leak (c : UDP.Cfg) (l : List CipherList.Entry) (ops : List UDP.Op) :
    C16.countP C16.isNatAdd (UDP.trace c (UDP.init l) ops) =
      C16.countP C16.isNatRemove (UDP.trace c (UDP.init l) ops) + (UDP.run c (UDP.init l) ops).nat.length :=
  C16.added_minus_removed_is_live c l ops

/-- a shared listener releases its socket with the last handle and leaves nothing queued or blocked (C12) -/
theorem listener_releases {s : Shared.St} (h : Shared.Reachable s) :
    (s.opened = [] ↔ s.sock = false) ∧ (s.sock = false → s.queue = [] ∧ s.waiting = []) :=
  Shared.last_close_releases h

/-- Serving stops only after all running handlers have returned; a panic in one handler or
    while handling one datagram is contained; the relay's helper goroutine is always joined; the
    association's goroutine removes and closes what it created; `Handle` calls AddClosed once,
    unconditionally, after handleConnection returned (regenerated wiring facts). -/
theorem containment : Gen.Wiring.streamServeJoinsAndContainsHandlers = true ∧ Gen.Wiring.udpLoopContainsPanicsPerDatagram = true ∧
    Gen.Wiring.relayJoinsItsUploadGoroutine = true ∧ Gen.Wiring.natGoroutineRemovesAndCloses = true ∧
    Gen.Wiring.tcpClosedOnceAfterHandleConnection = true := by decide +kernel

/-! the longest read the buffer allows with a 32-byte salt (65485 bytes; the kernel cuts a larger datagram,
    up to 65507, to this length) meets `hread`; domain headers are accepted by the splitter -/
example : (65485 : Nat) ≤ Gen.serverUDPBufferSize - (32 + Gen.maxAddrLen) := by decide +kernel
example : splitAddrLen ([3, 5] ++ List.replicate 5 97 ++ [0, 80]) = some 9 := by decide +kernel
example : splitAddrLen [3, 0, 0, 80] = some 4 ∧ splitAddrLen [9, 1, 2, 3, 4, 0, 80] = none ∧ splitAddrLen [1, 2, 3] = none := by decide +kernel

end OutlineModel.Props.C18
