import OutlineModel.Proofs.NatInv
import OutlineModel.Proofs.UDP
import OutlineModel.Proofs.TieValidatePacket
import OutlineModel.Proofs.TieNatMap
import OutlineModel.Model.UDPRun
/-
C04 — UDP associations give each client one stable, private outbound socket.

Invariants of the NAT-table model for EVERY reachable state: any number of clients, any
interleaving of client datagrams, target datagrams, expiries and key-list updates.  Socket
identities are abstract; that a fresh socket's local address differs from every open socket's is
the kernel contract (observed by the `udp` campaign through source ports).
-/
namespace OutlineModel.Props.C04
open OutlineModel OutlineModel.UDP OutlineModel.CipherList OutlineModel.Socks

theorem reachable_inv (c : Cfg) (l : List Entry) (ops : List UDP.Op) : NatInv (run c (UDP.init l) ops) :=
  (NatInv.init l).run c ops

/-- In every reachable state, distinct client addresses never share an outbound socket, and
    one client address has at most one association. -/
theorem inj (c : Cfg) (l : List Entry) (ops : List UDP.Op) (a b : Assoc)
    (ha : a ∈ (run c (UDP.init l) ops).nat) (hb : b ∈ (run c (UDP.init l) ops).nat) :
    (a.sock = b.sock → a = b) ∧ (a.client = b.client → a = b) := by
  have inv := reachable_inv c l ops
  exact ⟨List.eq_of_nodup_map _ inv.socks_nodup ha hb, List.eq_of_nodup_map _ inv.clients_nodup ha hb⟩

/-- The socket of a live association is never one that a copier closed, and it lies below `nextSock`, the
    identity the next new socket gets. -/
theorem live_socket_open (c : Cfg) (l : List Entry) (ops : List UDP.Op) (a : Assoc)
    (ha : a ∈ (run c (UDP.init l) ops).nat) :
    a.sock ∉ (run c (UDP.init l) ops).closedSocks ∧ a.sock < (run c (UDP.init l) ops).nextSock :=
  ⟨(reachable_inv c l ops).live_open a ha, (reachable_inv c l ops).socks_lt a ha⟩

/-- While the association of a client exists, a forwarded datagram of that client leaves
    from the association's socket, and the association (same socket, same key) is still there
    afterwards. -/
theorem stable (c : Cfg) (resolve : Target → Resolved) (st : State) (client : String) (cip : Option Nat) (wire : Nat)
    (opens : List Nat) (plain : List UInt8) (a : Assoc) (hn : lookupNat st.nat client = some a) :
    (∀ sock ip port payload, Eff.send sock ip port payload ∈
        (upstream c.dnsPort c.ki c.validate resolve st client cip wire opens plain).2 → sock = a.sock) ∧
    (∃ a', lookupNat (upstream c.dnsPort c.ki c.validate resolve st client cip wire opens plain).1.nat client = some a' ∧
        a'.sock = a.sock ∧ a'.key = a.key ∧ a'.client = a.client) := by
  -- a known client: only the last three outcomes of `upstream_cases` are possible
  rcases upstream_cases c.validate resolve c.dnsPort c.ki st client cip wire opens plain with
    ⟨hn', _⟩ | ⟨hn', _⟩ | ⟨hn', _⟩ | ⟨a', hn', _, _, _, port, _, h⟩ | ⟨a', hn', _, _, _, _, h⟩ | ⟨a', hn', _, h⟩ <;>
    rw [hn] at hn' <;> cases hn' <;> rw [h]
  · refine ⟨fun _ _ _ _ hm => by simp at hm; exact hm.1, a.onWrite port c.dnsPort, ?_, onWrite_sock _ _ _, onWrite_key _ _ _, onWrite_client _ _ _⟩
    rw [lookupNat_updateAssoc _ _ _ _ (fun x => onWrite_client x _ _), if_pos rfl, hn]
    rfl
  · exact ⟨by simp, a, hn, rfl, rfl, rfl⟩
  · exact ⟨by simp, a, hn, rfl, rfl, rfl⟩

/-- A datagram read on the socket of association `a` is written to `a`'s client and
    to nobody else (the copier captured the address when the association was created), encrypted
    under `a`'s key. -/
theorem reply_routing (c : Cfg) (st : State) (a : Assoc) (srcIP : List UInt8) (srcPort : Nat) (body : List UInt8)
    (client : String) (key : Nat) (pt : List UInt8) (w : Nat)
    (h : Eff.toClient client key pt w ∈ (downstream c.dnsPort c.bufSize c.maxAddrLen st a srcIP srcPort body).2) :
    client = a.client ∧ key = a.key := by
  have hr : Eff.toClient client key pt w ∈ relayReply c.bufSize c.maxAddrLen a srcIP srcPort body := by
    rcases downstream_cases c.dnsPort c.bufSize c.maxAddrLen st a srcIP srcPort body with hd | hd | hd <;> rw [hd] at h
    · exact h
    · exact (List.mem_append.1 h).resolve_right (by simp)
    · exact h
  -- of the three replies only the relayed one has a `toClient`, and that one names `a`'s client and key
  rcases relayReply_cases c.bufSize c.maxAddrLen a srcIP srcPort body with ⟨_, hc⟩ | hc | ⟨_, hc⟩ <;> rw [hc] at hr <;> simp at hr
  exact ⟨hr.1, hr.2.1⟩

/-- An association is created only by a datagram that authenticates under a configured key and whose
    destination passed the validator, for a client address that had none; it is created under that
    entry's id and on a brand-new socket (`nextSock`). -/
theorem created_only_authenticated (c : Cfg) (resolve : Target → Resolved) (st : State) (client : String) (cip : Option Nat)
    (wire : Nat) (opens : List Nat) (plain : List UInt8) (cl : String) (id : String) (sock : Nat)
    (h : Eff.natAdd cl id sock ∈ (upstream c.dnsPort c.ki c.validate resolve st client cip wire opens plain).2) :
    cl = client ∧ lookupNat st.nat client = none ∧ sock = st.nextSock ∧
    (∃ e ∈ st.list, opens.contains e.key = true ∧ e.id = id) ∧
    (∃ pl ip port, validatePacket c.validate resolve plain = .ok (.ok (pl, ip, port)) ∧ c.validate ip = .ok) := by
  rcases upstream_cases c.validate resolve c.dnsPort c.ki st client cip wire opens plain with
    ⟨_, _, hr⟩ | ⟨_, _, _, _, hr⟩ | ⟨hn, _, e, pl, ip, port, he, ho, hv, hr⟩ | ⟨_, _, _, _, _, _, _, hr⟩ | ⟨_, _, _, _, _, _, hr⟩ | ⟨_, _, _, hr⟩ <;>
    rw [hr] at h <;> simp at h
  -- only the row that creates an association has a `natAdd` among its effects
  obtain ⟨rfl, rfl, rfl⟩ := h
  exact ⟨rfl, hn, rfl, ⟨e, he, ho, rfl⟩, pl, ip, port, hv, (validatePacket_ok _ _ hv).2⟩

/-- The expiry of one client's copier leaves the association of every other client address in the table. -/
theorem expire_removes_self (st : State) (client : String) (b : Assoc) (hb : b ∈ st.nat) (hne : b.client ≠ client) :
    b ∈ (expire st client).1.nat := by
  cases hn : lookupNat st.nat client with
  | none => rw [expire_none hn]; exact hb
  | some a => rw [expire_some hn]; exact List.mem_filter.2 ⟨hb, by simpa using hne⟩

/- a two-client history reaching a state with two associations on distinct sockets -/
example :
    let c : Cfg := { dnsPort := 53, bufSize := 65536, maxAddrLen := 19, ki := fun _ => (32, 16), validate := fun _ => .ok }
    let l : List Entry := [{ ref := 1, id := "k", key := 0, lastIP := none }]
    let plain : List UInt8 := [1, 203, 0, 113, 10, 0, 53, 9]
    let res : Target → Resolved := fun t => match t with | .v4 ip _ => .ip ip | .v6 ip _ => .ip ip | .domain _ _ => .fail
    let ops := [UDP.Op.pkt "a:1" (some 1) 60 [0] plain res, UDP.Op.pkt "b:1" (some 2) 60 [0] plain res]
    ((run c (UDP.init l) ops).nat.map (·.sock)) = [1, 0] := by decide +kernel

/-- the status a verdict of the target IP validator is reported with -/
def verdictStatus : IP.Verdict → String
  | .ok => "OK" | .invalid => "ERR_ADDRESS_INVALID" | .priv => "ERR_ADDRESS_PRIVATE"

/-- how the model's collaborators are read off the code's: SplitAddr returns the header prefix the model's length
    function measures; the resolver fails where the model's does (or where the header does not decode) and otherwise
    returns an address with the model's IP; the validator stored in the handler, seen through ensureConnectionError,
    is the model's verdict -/
structure Agrees (validate : List UInt8 → IP.Verdict) (resolve : Target → Resolved)
    (addrString : List UInt8 → String) (resolveC : String → String → Tie.ValidatePacket.UAddr × Option String)
    (split : List UInt8 → List UInt8) (ensure : Option String → String → String → Option String)
    (validator : List UInt8 → Option String) (ipOf : Tie.ValidatePacket.UAddr → List UInt8) : Prop where
  split_eq : ∀ t, split t = match splitAddrLen t with | none => [] | some n => t.take n
  undecodable : ∀ a, decode a = .ok none → (resolveC "udp" (addrString a)).2 ≠ none
  resolve_fail : ∀ a tgt, decode a = .ok (some tgt) → resolve tgt = .fail → (resolveC "udp" (addrString a)).2 ≠ none
  resolve_ip : ∀ a tgt ip, decode a = .ok (some tgt) → resolve tgt = .ip ip →
      (resolveC "udp" (addrString a)).2 = none ∧ ipOf (resolveC "udp" (addrString a)).1 = ip
  verdict_ok : ∀ ip, validate ip = .ok → validator ip = none
  verdict_bad : ∀ ip, validate ip ≠ .ok → validator ip ≠ none ∧
      ensure (validator ip) "ERR_ADDRESS_INVALID" "invalid address" = some (verdictStatus (validate ip))

/-- The translated `packetHandler.validatePacket` (service/udp.go) and the
    model's `validatePacket` decide alike on every plaintext, for all collaborators that agree (`Agrees`): the code never
    panics; it reports the status the model reports; and where the model accepts, the code returns the same payload
    (the text after the address header) and an address whose IP is the one the model validated. -/
theorem code_validatePacket_refines_model (validate : List UInt8 → IP.Verdict) (resolve : Target → Resolved)
    (addrString : List UInt8 → String) (resolveC : String → String → Tie.ValidatePacket.UAddr × Option String)
    (split : List UInt8 → List UInt8) (ensure : Option String → String → String → Option String)
    (validator : List UInt8 → Option String) (ipOf : Tie.ValidatePacket.UAddr → List UInt8)
    (ag : Agrees validate resolve addrString resolveC split ensure validator ipOf)
    (h : Gen.Code.packetHandler) (text : List UInt8) :
    ∃ payload addr st, Gen.Code.packetHandler.validatePacket addrString resolveC split ensure validator ipOf h text =
        some (h, payload, addr, st) ∧
      (match validatePacket validate resolve text with
       | .ok (.error e) => st = some e
       | .ok (.ok (pl, ip, _)) => st = none ∧ payload = pl ∧ ipOf addr = ip
       | .error _ => False) := by
  have hpre : (split text).length ≤ text.length := by
    rw [ag.split_eq]
    split
    · exact Nat.zero_le _
    · exact List.length_take_le' _ _
  rw [Tie.ValidatePacket.validatePacket_tie (hpre := hpre) ..]
  refine ⟨_, _, _, rfl, ?_⟩
  unfold Tie.ValidatePacket.decide'
  rcases validatePacket_cases validate resolve text with ⟨hs, hm⟩ | ⟨n, tgt, hs, hle, hd, hrest⟩
  · simp [hm, ag.split_eq, hs]
  have hsp : split text = text.take n := by rw [ag.split_eq, hs]
  have hne : text.take n ≠ [] := fun h => by rw [h] at hd; cases hd
  rw [hsp, if_neg hne]
  rcases hrest with ⟨hr, hm⟩ | ⟨ip, hr, hrest⟩
  · simp [hm, ag.resolve_fail _ _ hd hr]
  obtain ⟨h2, h3⟩ := ag.resolve_ip _ _ _ hd hr
  rcases hrest with ⟨hv, hm⟩ | ⟨hv, hm⟩ | ⟨hv, port, hm⟩
  -- the two refusals alike
  iterate 2
    obtain ⟨hb1, hb2⟩ := ag.verdict_bad ip (by rw [hv]; simp)
    simp [hm, h2, h3, hb1, hb2, hv, verdictStatus]
  simp [hm, h2, h3, ag.verdict_ok ip hv, List.length_take, Nat.min_eq_left hle]

/-- For any collaborators of which only this is asked — `SplitAddr` returns no more than it was given (`hpre`),
    `ensureConnectionError` keeps an error an error (`hens`) — when the translated
    `validatePacket` reports no error — the only case in which `Handle` goes on to create or use an association — the
    target it returns is the resolver's answer for the address header, the stored validator accepted that target's IP,
    and the payload is the text after the header. -/
theorem code_association_only_for_allowed_destination
    (addrString : List UInt8 → String) (resolveC : String → String → Tie.ValidatePacket.UAddr × Option String)
    (split : List UInt8 → List UInt8) (ensure : Option String → String → String → Option String)
    (validator : List UInt8 → Option String) (ipOf : Tie.ValidatePacket.UAddr → List UInt8)
    (h h' : Gen.Code.packetHandler) (text payload : List UInt8) (addr : Tie.ValidatePacket.UAddr)
    (hpre : (split text).length ≤ text.length)
    (hens : ∀ e a b, e ≠ none → ensure e a b ≠ none)
    (hok : Gen.Code.packetHandler.validatePacket addrString resolveC split ensure validator ipOf h text = some (h', payload, addr, none)) :
    split text ≠ [] ∧ resolveC "udp" (addrString (split text)) = (addr, none) ∧ validator (ipOf addr) = none ∧
      payload = text.drop (split text).length := by
  rw [Tie.ValidatePacket.validatePacket_tie (hpre := hpre) ..] at hok
  unfold Tie.ValidatePacket.decide' at hok
  by_cases h1 : split text = []
  · simp [h1] at hok
  · by_cases h2 : (resolveC "udp" (addrString (split text))).2 = none
    · by_cases h3 : validator (ipOf (resolveC "udp" (addrString (split text))).1) = none
      · -- the accepting row: `hok` says which payload and address it returns
        simp [h1, h2, h3] at hok
        obtain ⟨-, rfl, rfl⟩ := hok
        exact ⟨h1, Prod.ext rfl h2, h3, rfl⟩
      · -- refused by the validator: the status is what `ensure` makes of that error, never `none`
        simp [h1, h2, h3] at hok
        obtain ⟨-, -, -, hnone⟩ := hok
        exact absurd hnone (hens _ _ _ h3)
    · simp [h1, h2] at hok

/-- collaborators that agree exist (a resolver that maps every decodable header to the nil IP, a
    validator that accepts exactly the nil IP) -/
example : Agrees (fun ip => if ip = [] then .ok else .invalid) (fun _ => .ip [])
    (fun a => match decode a with | .ok none => "bad" | _ => "good")
    (fun _ s => if s = "bad" then (⟨0⟩, some "no such host") else (⟨0⟩, none))
    (fun t => match splitAddrLen t with | none => [] | some n => t.take n)
    (fun e _ _ => if e = none then none else some "ERR_ADDRESS_INVALID")
    (fun ip => if ip = [] then none else some "invalid") (fun _ => []) where
  split_eq := fun _ => rfl
  undecodable := fun a h => by simp [h]
  resolve_fail := fun a tgt h hr => by simp at hr
  resolve_ip := fun a tgt ip h hr => by simp [h]; simpa using hr
  verdict_ok := fun ip h => by by_cases hi : ip = [] <;> simp_all
  verdict_bad := fun ip h => by by_cases hi : ip = [] <;> simp_all [verdictStatus]

/-- operations on the NAT table (`natmap.Get / set / del`, service/udp.go), as `Handle` and the association's copier make them -/
inductive TOp
  | set (client : String) (pc : GoRT.Opaque "net.PacketConn") (key : GoRT.Opaque "shadowsocks.EncryptionKey") (cm : GoRT.Opaque "service.UDPConnMetrics")
  | del (client : String)
  | get (client : String)

/-- the translated code, run over a sequence of operations (`none` = a panic) -/
def codeTable : Gen.Code.natmap → List TOp → Option Gen.Code.natmap
  | m, [] => some m
  | m, .set c pc k cm :: ops => (Gen.Code.natmap.set m c pc k cm).bind (fun r => codeTable r.1 ops)
  | m, .del c :: ops => (Gen.Code.natmap.del m c).bind (fun r => codeTable r.1 ops)
  | m, .get c :: ops => (Gen.Code.natmap.Get m c).bind (fun r => codeTable r.1 ops)

/-- the specification: a function from client address to the association last stored for it and not removed since -/
def specTable (timeout : Int) : (String → Option Gen.Code.natconn) → List TOp → (String → Option Gen.Code.natconn)
  | f, [] => f
  | f, .set c pc k cm :: ops => specTable timeout (fun x => if x = c then some (Tie.NatMap.entryOf timeout pc k cm) else f x) ops
  | f, .del c :: ops => specTable timeout (fun x => if x = c then none else f x) ops
  | f, .get _ :: ops => specTable timeout f ops

/-- Every sequence of set / del / Get on the translated NAT table runs without panic,
    leaves the table's timeout alone, and ends in a table whose lookups are exactly those of the specification map:
    a client address is bound to the association of the last `set` for that very address that no `del` of that
    address followed — so two different client addresses never see each other's association, and an association
    stays bound to its client until its own `del`. -/
theorem code_nat_table_refines_map (ops : List TOp) (m : Gen.Code.natmap) :
    ∃ m', codeTable m ops = some m' ∧ m'.timeout = m.timeout ∧
      ∀ c, (Gen.Code.natmap.Get m' c) = some (m', specTable m.timeout (fun x => m.keyConn.get? x) ops c) := by
  induction ops generalizing m with
  | nil => exact ⟨m, rfl, rfl, fun c => Tie.NatMap.get_tie m c⟩
  | cons op ops ih =>
    cases op with
    | set c pc k cm =>
      obtain ⟨m', h1, h2, h3⟩ := ih { m with keyConn := m.keyConn.insert c (Tie.NatMap.entryOf m.timeout pc k cm) }
      refine ⟨m', ?_, h2, fun x => ?_⟩
      · simpa only [codeTable, Tie.NatMap.set_tie, Option.bind_some] using h1
      · rw [h3 x]
        simp only [specTable, Tie.NatMap.get?_insert]
    | del c =>
      obtain ⟨m', h1, h2, h3⟩ := ih { m with keyConn := m.keyConn.erase c }
      refine ⟨m', ?_, h2, fun x => ?_⟩
      · simpa only [codeTable, Tie.NatMap.del_eq, Option.bind_some] using h1
      · rw [h3 x]
        simp only [specTable, Tie.NatMap.get?_erase]
    | get c =>
      obtain ⟨m', h1, h2, h3⟩ := ih m
      refine ⟨m', ?_, h2, fun x => ?_⟩
      · simpa only [codeTable, Tie.NatMap.get_tie, Option.bind_some] using h1
      · rw [h3 x]
        simp only [specTable]

/-- The translated `del` hands back exactly what the table held for that client
    (so that the copier closes its own socket and no other) and afterwards the client is unbound. -/
theorem code_del_returns_the_association (m : Gen.Code.natmap) (c : String) :
    ∃ m', Gen.Code.natmap.del m c = some (m', m.keyConn.get? c) ∧ m'.keyConn.get? c = none ∧
      ∀ c', c' ≠ c → m'.keyConn.get? c' = m.keyConn.get? c' := by
  refine ⟨_, Tie.NatMap.del_eq m c, ?_, ?_⟩
  · simp [Tie.NatMap.get?_erase]
  · intro c' h; simp [Tie.NatMap.get?_erase, h]

/-- two clients, one removed -/
example : (codeTable Gen.Code.natmap.zero [.set "a:1" ⟨1⟩ ⟨0⟩ ⟨0⟩, .set "b:2" ⟨2⟩ ⟨0⟩ ⟨0⟩, .del "a:1"]).map
    (fun m => ((m.keyConn.get? "a:1").map (·.PacketConn.val), (m.keyConn.get? "b:2").map (·.PacketConn.val))) =
    some (none, some 2) := by decide +kernel

end OutlineModel.Props.C04
