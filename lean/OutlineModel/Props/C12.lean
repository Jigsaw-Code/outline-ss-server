import OutlineModel.Proofs.Shared
import OutlineModel.Gen.Wiring
/-
C12 — Shared listeners deliver each connection or datagram exactly once.

Model: Model/Shared.lean, a labelled transition system of one shared listener (service/listeners.go:
multiStreamListener / multiPacketListener and their virtual handles, reached through the
ListenerManager): acquire, arrival of an item (connection or datagram), a handle calling
AcceptStream / ReadFrom, the hand-over of an item to a blocked handle (the code's free choice is
carried by the event), close.  The theorems hold for EVERY event sequence — every interleaving of
the operations of any number of handles, closes that race with pending hand-overs, re-acquisition
after full release.  Tied to the code by the `shared` campaign: the real manager on real sockets,
random interleavings including operations issued at the same instant from different goroutines; the
harness linearises what it observed into events and the model must accept every one of them
("impossible" = the implementation did what the specification forbids), while independent oracles
watch for what the model cannot see (an item that is never handed over although a handle is
blocked, connections left hanging, calls that never return, goroutines and descriptors left).
That each event is atomic on the real code rests on the lock facts of C19/C13.
-/
namespace OutlineModel.Props.C12
open OutlineModel OutlineModel.Shared

/-- In every reachable state no item has been delivered twice, and a delivered
    item is neither still queued nor dropped. -/
theorem delivered_exactly_once {s : St} (h : Reachable s) :
    (s.delivered.map (·.1)).Nodup ∧ ∀ p ∈ s.delivered, p.1 ∉ s.queue ∧ p.1 ∉ s.dropped :=
  Shared.delivered_exactly_once h

/-- Every item that reached the socket is in exactly one of: queued, delivered, dropped. -/
theorem nothing_lost {s : St} (h : Reachable s) :
    (s.queue ++ s.delivered.map (·.1) ++ s.dropped).Perm s.seen ∧ s.seen.Nodup :=
  Shared.conservation h

/-- An item is dropped only by the step that closes the LAST open
    handle (then everything queued is closed rather than left hanging); and whenever an item is
    queued and a handle is blocked in accept/read the hand-over is possible. -/
theorem never_lost_while_a_handle_is_open {s s' : St} {e : Ev} (hr : Reachable s) (hs : step s e = some s') :
    (s'.dropped = s.dropped ∨
      (∃ h, e = .close h ∧ s.opened = [h] ∧ s'.opened = [] ∧ s'.dropped = s.dropped ++ s.queue ∧ s'.queue = [])) ∧
    (∀ i ∈ s.queue, ∀ h ∈ s.waiting, ∃ s'', step s (.deliver i h) = some s'') :=
  ⟨dropped_only_at_last_close hs, fun _ hq _ hw => Option.isSome_iff_exists.mp (deliver_isSome.mpr ⟨hq, hw⟩)⟩

/-- An item is handed only to a handle that is open and blocked in accept/read. -/
theorem only_to_open_handles {s s' : St} {i : Item} {h : Handle} (hr : Reachable s) (hs : step s (.deliver i h) = some s') :
    h ∈ s.opened ∧ h ∈ s.waiting ∧ h ∉ s.closedH ∧ i ∈ s.queue :=
  have hi := inv_reachable hr
  have hg := deliver_isSome.mp (Option.isSome_of_eq_some hs)
  ⟨hi.waitingOpen h hg.2, hg.2, hi.disj h (hi.waitingOpen h hg.2), hg.1⟩

/-- Closing a handle unblocks its pending call with the closed error, takes it out of
    the open set, and does not disturb the other handles or what was delivered. -/
theorem close_semantics {s s' : St} {h : Handle} (hr : Reachable s) (hs : step s (.close h) = some s') :
    h ∉ s'.opened ∧ h ∉ s'.waiting ∧ h ∈ s'.closedH ∧
    (h ∈ s.waiting → s'.errs = h :: s.errs) ∧ (h ∉ s.waiting → s'.errs = s.errs) ∧
    (∀ h', h' ≠ h → (h' ∈ s'.opened ↔ h' ∈ s.opened) ∧ (h' ∈ s'.waiting ↔ h' ∈ s.waiting)) ∧
    s'.delivered = s.delivered :=
  close_effect (inv_reachable hr) hs

/-- After any further events every call on a closed handle fails the same
    way, and no hand-over to it is possible. -/
theorem closed_handle_stays_closed {s s' : St} {evs : List Ev} {h : Handle} (hr : Reachable s) (hc : h ∈ s.closedH)
    (hrun : run s evs = some s') :
    step s' (.call h) = some { s' with errs := h :: s'.errs } ∧ ∀ i, step s' (.deliver i h) = none :=
  have h3 := closed_never_receives (inv_reachable hr) hc hrun
  ⟨call_on_closed h3.1, h3.2.2⟩

/-- The socket is bound exactly while some handle is open; when the last one
    closes nothing stays queued and no call stays blocked; an arrival while nothing is bound is
    refused and never reaches anybody. -/
theorem last_close_releases {s : St} (h : Reachable s) :
    (s.opened = [] ↔ s.sock = false) ∧ (s.sock = false → s.queue = [] ∧ s.waiting = []) ∧
    (∀ i ∈ s.refused, i ∉ s.seen ∧ ∀ p ∈ s.delivered, p.1 ≠ i) :=
  ⟨(Shared.last_close_releases h).1, (Shared.last_close_releases h).2, refused_never_delivered h⟩

/-- the manager hands out only wrapped listeners built in one place (regenerated wiring fact) -/
theorem wiring : Gen.Wiring.managerReturnsOnlyWrappedListeners = true := by decide +kernel

/-! `demo` (Proofs/Shared): two handles, a delivery, a close that unblocks a pending call, a last close that
    drops a queued item, a refused arrival, re-acquisition and a delivery to the new handle; the last
    example: a hand-over to the closed handle 1 is not a step -/
example : (run {} demo).isSome = true := by decide +kernel
example : ((run {} demo).getD {}).delivered = [(13, 2), (10, 0)] ∧ ((run {} demo).getD {}).dropped = [11] ∧
    ((run {} demo).getD {}).errs = [1] ∧ ((run {} demo).getD {}).refused = [12] := by decide +kernel
example : run {} (demo ++ [.arrive 14, .deliver 14 1]) = none := by decide +kernel

end OutlineModel.Props.C12
