/-
Threads as acquire/release programs over ranked locks (a lock is identified with its rank);
well-ranked programs never deadlock, for any number of threads (C13).
-/
namespace OutlineModel.Locks

inductive Ev | acq (l : Nat) | rel (l : Nat)
deriving Repr, DecidableEq

structure Thread where
  held : List Nat
  todo : List Ev

/-- well ranked and well bracketed, from the current held set -/
def WR : List Nat → List Ev → Prop
  | held, [] => held = []
  | held, .acq l :: rest => (∀ h ∈ held, h < l) ∧ WR (l :: held) rest
  | held, .rel l :: rest => l ∈ held ∧ WR (held.erase l) rest

def holds (ts : List Thread) (l : Nat) : Prop := ∃ t ∈ ts, l ∈ t.held

def canStep (ts : List Thread) (t : Thread) : Prop :=
  match t.todo with
  | [] => False
  | .acq l :: _ => ¬ holds ts l
  | .rel _ :: _ => True

def finished (t : Thread) : Prop := t.todo = []

/-- when no thread can step, whoever waits for a lock finds its holder waiting for a higher one -/
theorem climb (ts : List Thread) (hwr : ∀ t ∈ ts, WR t.held t.todo)
    (stuck : ∀ t ∈ ts, ¬ canStep ts t) :
    ∀ t ∈ ts, ∀ l rest, t.todo = .acq l :: rest →
      ∃ t' ∈ ts, ∃ l' rest', t'.todo = .acq l' :: rest' ∧ l < l' := by
  intro t ht l rest htodo
  have hs := stuck t ht
  simp only [canStep, htodo, Classical.not_not] at hs
  obtain ⟨o, ho, hlo⟩ := hs
  have hwo := hwr o ho
  cases hto : o.todo with
  | nil => rw [hto, WR] at hwo; rw [hwo] at hlo; cases hlo
  | cons e rest' =>
    cases e with
    | rel l' =>
      have := stuck o ho
      simp [canStep, hto] at this
    | acq l' =>
      rw [hto, WR] at hwo
      exact ⟨o, ho, l', rest', hto, hwo.1 l hlo⟩

theorem no_deadlock (R : Nat) (ts : List Thread) (hwr : ∀ t ∈ ts, WR t.held t.todo)
    (hR : ∀ t ∈ ts, ∀ l rest, t.todo = .acq l :: rest → l < R)
    (hunf : ∃ t ∈ ts, ¬ finished t) : ∃ t ∈ ts, canStep ts t := by
  apply Classical.byContradiction
  intro hno
  have stuck : ∀ t ∈ ts, ¬ canStep ts t := fun t ht hc => hno ⟨t, ht, hc⟩
  obtain ⟨t, ht, hnf⟩ := hunf
  -- nobody waits: from a waiter at rank `l`, `climb` gives one at a higher rank; `k` bounds the distance left to `R`
  have key : ∀ k : Nat, ∀ t ∈ ts, ∀ l rest, t.todo = .acq l :: rest → R ≤ l + k → False := by
    intro k
    induction k with
    | zero => intro t ht l rest h hle; have := hR t ht l rest h; omega
    | succ k ih =>
      intro t ht l rest h hle
      obtain ⟨t', ht', l', rest', h', hlt⟩ := climb ts hwr stuck t ht l rest h
      exact ih t' ht' l' rest' h' (by omega)
  cases htodo : t.todo with
  | nil => exact hnf htodo
  | cons e rest =>
    cases e with
    | rel l => exact stuck t ht (by simp [canStep, htodo])
    | acq l => exact key R t ht l rest htodo (by omega)

end OutlineModel.Locks
