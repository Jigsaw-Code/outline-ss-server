/- For C02, and the truncation case of C18: the reader of Model/SSStream on what its writer produced. -/
import OutlineModel.Model.SSStream

namespace OutlineModel.SSStream

theorem encodeLen_length (n : Nat) : (encodeLen n).length = 2 := rfl

theorem decodeLen_encodeLen {n : Nat} (h : n ≤ 16383) : decodeLen (encodeLen n) = some n := by
  have h1 : n / 256 < 256 := by omega
  have h2 : n % 256 < 256 := by omega
  simp only [encodeLen, decodeLen, UInt8.toNat_ofNat', Nat.mod_eq_of_lt h1, Nat.mod_eq_of_lt h2]
  congr 1
  omega

theorem encodeChunk_length {a : AEAD} (hc : a.Correct) (n : Nat) (p : List UInt8) :
    (encodeChunk a n p).length = (2 + a.tagSize) + (p.length + a.tagSize) := by
  simp [encodeChunk, hc.seal_length, encodeLen_length]

theorem encodeChunks_append (a : AEAD) (n : Nat) (cs ds : List (List UInt8)) :
    encodeChunks a n (cs ++ ds) = encodeChunks a n cs ++ encodeChunks a (n + 2 * cs.length) ds := by
  induction cs generalizing n with
  | nil => simp [encodeChunks]
  | cons c cs ih =>
    simp only [List.cons_append, encodeChunks, ih, List.append_assoc, List.length_cons]
    have : n + 2 + 2 * cs.length = n + 2 * (cs.length + 1) := by omega
    rw [this]

theorem encodeChunks_length_ge {a : AEAD} (hc : a.Correct) (n : Nat) (cs : List (List UInt8)) :
    2 * cs.length ≤ (encodeChunks a n cs).length := by
  induction cs generalizing n with
  | nil => simp
  | cons c cs ih =>
    have := ih (n + 2)
    simp only [encodeChunks, List.length_append, encodeChunk_length hc, List.length_cons]
    omega

theorem take_ne_nil {l : List UInt8} {j : Nat} (h0 : 0 < j) (hj : j < l.length) : l.take j ≠ [] :=
  fun h => (List.take_eq_nil_iff.1 h).elim (Nat.ne_of_gt h0) fun hl => by rw [hl] at hj; exact Nat.not_lt_zero _ hj

theorem decodeChunks_nil (a : AEAD) (fuel n : Nat) (acc : List UInt8) :
    decodeChunks a fuel n acc [] = .ok acc := by
  cases fuel <;> simp [decodeChunks]

theorem decodeChunks_short_length {a : AEAD} {fuel n : Nat} {acc t : List UInt8} (h0 : t ≠ [])
    (h : t.length < 2 + a.tagSize) : decodeChunks a (fuel + 1) n acc t = .error acc "unexpected EOF in length block" := by
  rw [decodeChunks, if_neg (by simpa using h0), if_pos h]

theorem decodeChunks_length_block {a : AEAD} {fuel n k : Nat} {acc lb t lenBytes : List UInt8}
    (hl : lb.length = 2 + a.tagSize) (ho : a.open_ n lb = some lenBytes) (hk : decodeLen lenBytes = some k) :
    decodeChunks a (fuel + 1) n acc (lb ++ t) =
      if t.length < k + a.tagSize then .error acc "unexpected EOF in payload block"
      else match a.open_ (n + 1) (t.take (k + a.tagSize)) with
        | none => .error acc "failed to open payload block"
        | some p => decodeChunks a fuel (n + 2) (acc ++ p) (t.drop (k + a.tagSize)) := by
  have hne : ¬ (lb ++ t).isEmpty = true := by
    rw [List.isEmpty_iff, List.append_eq_nil_iff]
    intro h
    rw [h.1] at hl
    simp at hl
    omega
  rw [decodeChunks, if_neg hne, if_neg (by rw [List.length_append, hl]; omega)]
  simp only [List.take_left' hl, List.drop_left' hl, ho, hk]
  rfl

theorem decodeChunks_encodeChunk {a : AEAD} (hc : a.Correct) {fuel n : Nat}
    {acc p rest : List UInt8} (hp : p.length ≤ 16383) :
    decodeChunks a (fuel + 1) n acc (encodeChunk a n p ++ rest)
      = decodeChunks a fuel (n + 2) (acc ++ p) rest := by
  have hP : (a.seal (n + 1) p).length = p.length + a.tagSize := hc.seal_length _ _
  rw [encodeChunk, List.append_assoc,
    decodeChunks_length_block (by rw [hc.seal_length, encodeLen_length]) (hc.open_seal _ _) (decodeLen_encodeLen hp),
    if_neg (by rw [List.length_append, hP]; omega), List.take_left' hP, List.drop_left' hP, hc.open_seal]

theorem decodeChunks_encodeChunks {a : AEAD} (hc : a.Correct) {cs : List (List UInt8)}
    (hcs : ∀ c ∈ cs, c.length ≤ 16383) {fuel n : Nat} {acc rest : List UInt8} :
    decodeChunks a (cs.length + fuel) n acc (encodeChunks a n cs ++ rest)
      = decodeChunks a fuel (n + 2 * cs.length) (acc ++ cs.flatten) rest := by
  induction cs generalizing n acc with
  | nil => simp [encodeChunks]
  | cons c cs ih =>
    obtain ⟨hc1, hcs'⟩ := List.forall_mem_cons.1 hcs
    have e1 : (c :: cs).length + fuel = (cs.length + fuel) + 1 := by simp; omega
    rw [e1, encodeChunks, List.append_assoc, decodeChunks_encodeChunk hc hc1, ih hcs']
    have e2 : n + 2 + 2 * cs.length = n + 2 * (c :: cs).length := by simp; omega
    rw [e2, List.flatten_cons, List.append_assoc]

/-- fuel is left for `t`: `decode` starts with the stream length, and every chunk takes at least two bytes -/
theorem decode_encode_append {a : AEAD} (hc : a.Correct) {saltSize : Nat} {salt : List UInt8}
    (hs : salt.length = saltSize) {cs : List (List UInt8)} (hcs : ∀ c ∈ cs, c.length ≤ 16383) (t : List UInt8) :
    ∃ fuel, (t ≠ [] → ∃ f, fuel = f + 1) ∧
      decode a saltSize (encode a salt cs ++ t) = decodeChunks a fuel (2 * cs.length) cs.flatten t := by
  have hge := encodeChunks_length_ge hc 0 cs
  have hlen : (encode a salt cs ++ t).length =
      cs.length + (salt.length + ((encodeChunks a 0 cs).length - cs.length) + t.length) := by
    simp only [encode, List.length_append]; omega
  refine ⟨salt.length + ((encodeChunks a 0 cs).length - cs.length) + t.length, fun h => ?_, ?_⟩
  · have := List.length_pos_iff.2 h
    exact Nat.exists_eq_add_one_of_ne_zero (by omega)
  · unfold decode
    rw [if_neg (by rw [hlen]; omega), hlen, encode, List.append_assoc, List.drop_left' hs,
      decodeChunks_encodeChunks hc hcs]
    simp

theorem decode_encode {a : AEAD} (hc : a.Correct) (saltSize : Nat) (salt : List UInt8)
    (hs : salt.length = saltSize) (chunks : List (List UInt8))
    (hcs : ∀ c ∈ chunks, c.length ≤ 16383) :
    decode a saltSize (encode a salt chunks) = .ok chunks.flatten := by
  obtain ⟨fuel, -, h⟩ := decode_encode_append hc hs hcs []
  rw [← List.append_nil (encode a salt chunks), h, decodeChunks_nil]

theorem decode_encode_chunking_independent {a : AEAD} (hc : a.Correct) (saltSize : Nat)
    (salt : List UInt8) (hs : salt.length = saltSize) (cs₁ cs₂ : List (List UInt8))
    (h₁ : ∀ c ∈ cs₁, c.length ≤ 16383) (h₂ : ∀ c ∈ cs₂, c.length ≤ 16383)
    (hflat : cs₁.flatten = cs₂.flatten) :
    decode a saltSize (encode a salt cs₁) = decode a saltSize (encode a salt cs₂) := by
  rw [decode_encode hc saltSize salt hs cs₁ h₁, decode_encode hc saltSize salt hs cs₂ h₂, hflat]

/-- 50 = `bytesForKeyFinding` (service/tcp.go) -/
theorem first_bytes_replayed (a : AEAD) (saltSize : Nat) (s : List UInt8) :
    decode a saltSize (multiReader (s.take 50) (s.drop 50)) = decode a saltSize s := by
  rw [multiReader, List.take_append_drop]

/-- `sealCalls` really is the list of `Seal` invocations that make up the encoding -/
theorem encodeChunks_eq_sealCalls (a : AEAD) (n : Nat) (cs : List (List UInt8)) :
    encodeChunks a n cs = ((sealCalls n cs).map fun c => a.seal c.1 c.2).flatten := by
  induction cs generalizing n with
  | nil => rfl
  | cons c cs ih => simp [encodeChunks, sealCalls, encodeChunk, ih]

theorem sealCalls_nonces (n : Nat) (cs : List (List UInt8)) :
    (sealCalls n cs).map (·.1) = List.range' n (2 * cs.length) := by
  induction cs generalizing n with
  | nil => simp [sealCalls]
  | cons c cs ih =>
    have e : 2 * (c :: cs).length = (2 * cs.length + 1) + 1 := by simp; omega
    rw [e, List.range'_succ, List.range'_succ]
    simp [sealCalls, ih]

theorem nonces_never_reused (chunks : List (List UInt8)) :
    noncesUsed chunks = List.range (2 * chunks.length) := by
  rw [noncesUsed, sealCalls_nonces, List.range_eq_range']

theorem noncesUsed_nodup (chunks : List (List UInt8)) : (noncesUsed chunks).Nodup := by
  rw [nonces_never_reused]; exact List.nodup_range

theorem decodeChunks_truncated_chunk {a : AEAD} (hc : a.Correct) {fuel n j : Nat}
    {acc p : List UInt8} (hp : p.length ≤ 16383) (hj0 : 0 < j)
    (hj : j < (encodeChunk a n p).length) :
    ∃ why, decodeChunks a (fuel + 1) n acc ((encodeChunk a n p).take j) = .error acc why := by
  have hL : (a.seal n (encodeLen p.length)).length = 2 + a.tagSize := by rw [hc.seal_length, encodeLen_length]
  have hne := take_ne_nil hj0 hj
  rw [encodeChunk_length hc] at hj
  by_cases hshort : j < 2 + a.tagSize
  · -- the cut is inside the length block
    exact ⟨_, decodeChunks_short_length hne (by rw [List.length_take]; omega)⟩
  · -- the length block is whole and opens; the payload block is short
    refine ⟨"unexpected EOF in payload block", ?_⟩
    rw [encodeChunk, List.take_append, List.take_of_length_le (by omega), hL,
      decodeChunks_length_block hL (hc.open_seal _ _) (decodeLen_encodeLen hp),
      if_pos (by rw [List.length_take, hc.seal_length]; omega)]

theorem truncated_is_error {a : AEAD} (hc : a.Correct) (saltSize : Nat) (salt : List UInt8)
    (hs : salt.length = saltSize) (init : List (List UInt8)) (last : List UInt8)
    (hinit : ∀ c ∈ init, c.length ≤ 16383) (hlast : last.length ≤ 16383) (k : Nat)
    (hlo : (encode a salt init).length < k)
    (hhi : k < (encode a salt (init ++ [last])).length) :
    ∃ why, decode a saltSize ((encode a salt (init ++ [last])).take k)
      = .error init.flatten why := by
  -- the stream is everything up to the last chunk, then a proper non-empty prefix (`j` bytes) of that chunk
  have hsplit : encode a salt (init ++ [last]) = encode a salt init ++ encodeChunk a (2 * init.length) last := by
    simp [encode, encodeChunks_append, encodeChunks]
  obtain ⟨j, rfl⟩ : ∃ j, k = (encode a salt init).length + j := ⟨k - (encode a salt init).length, by omega⟩
  rw [hsplit, List.length_append] at hhi
  rw [hsplit, List.take_length_add_append]
  obtain ⟨fuel, hfuel, h⟩ := decode_encode_append hc hs hinit ((encodeChunk a (2 * init.length) last).take j)
  obtain ⟨f, rfl⟩ := hfuel (take_ne_nil (by omega) (by omega))
  rw [h]
  exact decodeChunks_truncated_chunk hc hlast (by omega) (by omega)

theorem truncated_single_chunk_is_error {a : AEAD} (hc : a.Correct) (saltSize : Nat)
    (salt : List UInt8) (hs : salt.length = saltSize) (p : List UInt8) (hp : p.length ≤ 16383)
    (k : Nat) (hlo : salt.length < k) (hhi : k < (encode a salt [p]).length) :
    ∃ why, decode a saltSize ((encode a salt [p]).take k) = .error [] why := by
  have := truncated_is_error hc saltSize salt hs [] p (by simp) hp k
    (by simpa [encode, encodeChunks] using hlo) (by simpa using hhi)
  simpa using this

theorem toy_correct : toy.Correct where
  seal_length := by intro n p; simp [toy]
  open_seal := by
    intro n p
    simp [toy, List.map_map, Function.comp_def, UInt8.add_sub_cancel]

example : ∃ a : AEAD, a.Correct := ⟨toy, toy_correct⟩

example :
    decode toy 4 (encode toy [9, 9, 9, 9] [[1, 2, 3], [], [4]]) = .ok [1, 2, 3, 4] := by
  decide +kernel

example :
    decode toy 4 (encode toy [9, 9, 9, 9] []) = .ok [] := by
  decide +kernel

/-- cut inside the second chunk: first chunk delivered, then error -/
example :
    (decode toy 4 ((encode toy [9, 9, 9, 9] [[1, 2, 3], [4]]).take 60)).plain = [1, 2, 3]
    ∧ (decode toy 4 ((encode toy [9, 9, 9, 9] [[1, 2, 3], [4]]).take 60)).isOk = false := by
  decide +kernel

/-- a corrupted tag byte is an error -/
example :
    (decode toy 1 ((encode toy [7] [[1, 2, 3]]).set 5 255)).isOk = false := by
  decide +kernel

#print axioms decodeLen_encodeLen
#print axioms decodeChunks_encodeChunk
#print axioms decodeChunks_encodeChunks
#print axioms decode_encode
#print axioms decode_encode_chunking_independent
#print axioms first_bytes_replayed
#print axioms encodeChunks_eq_sealCalls
#print axioms nonces_never_reused
#print axioms noncesUsed_nodup
#print axioms decodeChunks_truncated_chunk
#print axioms truncated_is_error
#print axioms truncated_single_chunk_is_error
#print axioms toy_correct

end OutlineModel.SSStream
