import OutlineModel.Proofs.GoRT
import OutlineModel.Proofs.TieCipherList
import OutlineModel.Gen.Code
/-
Tie for the translated `findAccessKey` (service/tcp.go): take a snapshot of the key list for the client's IP, read the
first 50 bytes, run the (translated) trial-decryption loop `findEntry` over the snapshot, mark the entry found as used, and
hand back the entry, a reader that replays the 50 bytes, and the salt.  `io.ReadFull` FILLS the buffer it is given — the
one aliasing this function has — and the translation makes that explicit: the parameter returns the new contents (assumed
to have the length of the buffer: `hlen`).  The snapshot and the mark are calls on the `CipherList` interface: the first a
parameter, the second an entry of the effect log.  `hfits` is the precondition of `findEntry_tie` for 50 bytes, with
`0 ≤ saltSize` (for the slice `firstBytes[:SaltSize()]`) and `0 ≤ tagSize` (so that the salt alone fits as well).
-/
namespace OutlineModel.Tie.FindKey
open OutlineModel OutlineModel.GoRT
open OutlineModel.Gen
open OutlineModel.Tie.CipherList

def markEff (cl : Opaque "service.CipherList") (elt : Nat) (ip : Opaque "netip.Addr") : Eff :=
  { name := "CipherList.MarkUsedByClientIP", args := [], vals := [[Atom.tok cl.val], [Atom.tok elt], [Atom.tok ip.val]] }

section
variable (snapshot : List (ListElem Code.CipherEntry)) (saltSize tagSize : Opaque "shadowsocks.EncryptionKey" → Int)
    (multi : Opaque "bytes.Reader" → Opaque "io.Reader" → Opaque "io.Reader") (newReader : List UInt8 → Opaque "bytes.Reader")
    (since : Int → Int) (unpack : List UInt8 → List UInt8 → Opaque "shadowsocks.EncryptionKey" → List UInt8 × Option String)
    (read : List UInt8 × Int × Option String) (now : Int) (rd : Opaque "io.Reader") (ip : Opaque "netip.Addr")
    (cl : Opaque "service.CipherList")

/-- closed form: (entry, reader to continue with, salt, search time, error, calls on the key list) -/
def outcome : Option Code.CipherEntry × Opaque "io.Reader" × List UInt8 × Int × Option String × List Eff :=
  if read.2.2 ≠ none then (none, rd, [], 0, some "reading header failed after %d bytes: %w", [])
  else match snapshot.find? (fun elt => opens saltSize tagSize unpack read.1 elt.Value.CryptoKey) with
    | none => (none, rd, [], since now, some "could not find valid TCP cipher", [])
    | some elt => (some elt.Value, multi (newReader read.1) rd, read.1.take (saltSize elt.Value.CryptoKey).toNat, since now, none,
        [markEff cl elt.id ip])

theorem outcome_read_error (h : read.2.2 ≠ none) :
    outcome snapshot saltSize tagSize multi newReader since unpack read now rd ip cl =
      (none, rd, [], 0, some "reading header failed after %d bytes: %w", []) := by
  unfold outcome; rw [if_pos h]

theorem outcome_not_found (h : read.2.2 = none)
    (hf : snapshot.find? (fun elt => opens saltSize tagSize unpack read.1 elt.Value.CryptoKey) = none) :
    outcome snapshot saltSize tagSize multi newReader since unpack read now rd ip cl =
      (none, rd, [], since now, some "could not find valid TCP cipher", []) := by
  unfold outcome; rw [if_neg (by simp [h]), hf]

theorem outcome_found (h : read.2.2 = none) (elt : ListElem Code.CipherEntry)
    (hf : snapshot.find? (fun elt => opens saltSize tagSize unpack read.1 elt.Value.CryptoKey) = some elt) :
    outcome snapshot saltSize tagSize multi newReader since unpack read now rd ip cl =
      (some elt.Value, multi (newReader read.1) rd, read.1.take (saltSize elt.Value.CryptoKey).toNat, since now, none,
        [markEff cl elt.id ip]) := by
  unfold outcome; rw [if_neg (by simp [h]), hf]
end

/-- **findAccessKey**: given that `io.ReadFull` hands back a buffer of the 50 bytes it was given and that these cover
    salt+2+tag of every key of the snapshot, the translated function never panics and does what `outcome` says -/
theorem findAccessKey_tie
    (snapshot : Opaque "service.CipherList" → Opaque "netip.Addr" → List (ListElem Code.CipherEntry))
    (saltSize tagSize : Opaque "shadowsocks.EncryptionKey" → Int)
    (multi : Opaque "bytes.Reader" → Opaque "io.Reader" → Opaque "io.Reader") (newReader : List UInt8 → Opaque "bytes.Reader")
    (since : Int → Int) (unpack : List UInt8 → List UInt8 → Opaque "shadowsocks.EncryptionKey" → List UInt8 × Option String)
    (readFull : Opaque "io.Reader" → Int → List UInt8 × Int × Option String) (now : Int)
    (rd : Opaque "io.Reader") (ip : Opaque "netip.Addr") (cl : Opaque "service.CipherList") (l : Opaque "slog.Logger")
    (hlen : (readFull rd 50).1.length = 50)
    (hfits : ∀ elt ∈ snapshot cl ip, 0 ≤ saltSize elt.Value.CryptoKey ∧ 0 ≤ tagSize elt.Value.CryptoKey ∧
      saltSize elt.Value.CryptoKey + 2 + tagSize elt.Value.CryptoKey ≤ 50) :
    Code.findAccessKey snapshot saltSize tagSize multi newReader since unpack readFull now rd ip cl l =
      some (outcome (snapshot cl ip) saltSize tagSize multi newReader since unpack (readFull rd 50) now rd ip cl) := by
  unfold Code.findAccessKey outcome
  have h50 : GoRT.len (List.replicate ((50 : Int)).toNat (0 : UInt8)) = 50 := by simp [GoRT.len]
  simp only [h50]
  by_cases herr : (readFull rd 50).2.2 = none
  · have hfits' : ∀ elt ∈ snapshot cl ip, 0 ≤ saltSize elt.Value.CryptoKey + 2 + tagSize elt.Value.CryptoKey ∧
        saltSize elt.Value.CryptoKey + 2 + tagSize elt.Value.CryptoKey ≤ ((readFull rd 50).1.length : Int) := by
      intro elt h; obtain ⟨a, b, c⟩ := hfits elt h; rw [hlen]; omega
    rw [findEntry_tie saltSize tagSize unpack (readFull rd 50).1 (snapshot cl ip) l hfits']
    cases hf : (snapshot cl ip).find? (fun elt => opens saltSize tagSize unpack (readFull rd 50).1 elt.Value.CryptoKey) with
    | none => simp [herr]
    | some elt =>
      obtain ⟨a, b, c⟩ := hfits elt (List.mem_of_find?_eq_some hf)
      have hs := slice_prefix (readFull rd 50).1 (saltSize elt.Value.CryptoKey) a (by rw [hlen]; omega)
      simp [herr, hs, markEff]
  · simp [herr]

end OutlineModel.Tie.FindKey
