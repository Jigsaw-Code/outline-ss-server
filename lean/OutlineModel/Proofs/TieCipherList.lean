import OutlineModel.Proofs.GoRT
import OutlineModel.Gen.Code
import OutlineModel.Model.CipherList
/-
Tie between the translated service/cipher_list.go (matchesIP, SnapshotForClientIP, MarkUsedByClientIP, Update) and
findEntry of service/tcp.go, and the model Model/CipherList.lean.  container/list is the prelude's (elements with an
identity, front first).  The loop lemmas (`fill`, `findLoop`) are stated for ANY body that satisfies a step equation
`hbody`, and the translated bodies are shown to satisfy it by `simp`, so that the tie survives a rearrangement of their
`if`s in the source.
-/

namespace OutlineModel.Tie.CipherList
open OutlineModel OutlineModel.GoRT OutlineModel.CipherList
open OutlineModel.Gen

def absIP (a : Opaque "netip.Addr") : Option Nat := if a = ⟨0⟩ then none else some a.val

def absEntry (e : ListElem Code.CipherEntry) : Entry :=
  { ref := e.id, id := e.Value.ID, key := e.Value.CryptoKey.val, lastIP := absIP e.Value.lastClientIP }

/-- **matchesIP**: never panics; the model's predicate -/
theorem matchesIP_tie (e : ListElem Code.CipherEntry) (ip : Opaque "netip.Addr") :
    Code.matchesIP e ip = some (matchesIP (absIP ip) (absEntry e)) := by
  unfold Code.matchesIP matchesIP absEntry absIP
  by_cases ha : ip = ⟨0⟩
  · simp [ha]
  · by_cases hb : e.Value.lastClientIP = ⟨0⟩
    · simp [ha, hb]
    · simp [ha, hb, Opaque.decide_eq]

/-- one filling pass of SnapshotForClientIP: when the array holds `done`, then room for the elements of `rest` that
    satisfy `q`, then `tail`, and the index stands behind `done`, the pass stores those elements in order; no store is
    out of range -/
theorem fill {α : Type} (z : α) (q : α → Bool) (body : α → List α × Int → Option (ForInStep (List α × Int)))
    (hbody : ∀ e arr i, body e (arr, i) =
      if q e then (GoRT.set arr i e).bind (fun a => some (ForInStep.yield (a, i + 1))) else some (ForInStep.yield (arr, i)))
    (tail : List α) : ∀ (rest done arr : List α) (i : Int),
      arr = done ++ (List.replicate (rest.filter q).length z ++ tail) → i = done.length →
      forIn rest (arr, i) body = some (done ++ (rest.filter q ++ tail), ((done.length + (rest.filter q).length : Nat) : Int)) := by
  intro rest
  induction rest with
  | nil => rintro done _ _ rfl rfl; rfl
  | cons e rest ih =>
    rintro done _ _ rfl rfl
    rw [List.forIn_cons, hbody, List.filter_cons]
    cases q e
    · exact ih done _ _ rfl rfl
    · rw [if_pos rfl, if_pos rfl, List.length_cons, List.replicate_succ, List.cons_append, set_length_append]
      refine (ih (done ++ [e]) _ _ (by simp) (by simp)).trans ?_
      simp [Nat.add_assoc, Nat.add_comm 1]

def snapOf (l : List (ListElem Code.CipherEntry)) (ip : Opaque "netip.Addr") : List (ListElem Code.CipherEntry) :=
  l.filter (fun e => matchesIP (absIP ip) (absEntry e)) ++ l.filter (fun e => !matchesIP (absIP ip) (absEntry e))

theorem mem_snapOf (l : List (ListElem Code.CipherEntry)) (ip : Opaque "netip.Addr") (e : ListElem Code.CipherEntry) :
    e ∈ snapOf l ip ↔ e ∈ l :=
  (List.filter_append_perm _ l).mem_iff

/-- **SnapshotForClientIP**: never panics (every store is within the array), leaves the list alone, and returns
    the model's two-pass permutation: the entries last used by this client IP first, the others after, each
    group in list order -/
theorem snapshot_tie (cl : Code.cipherList) (ip : Opaque "netip.Addr") :
    Code.cipherList.SnapshotForClientIP cl ip = some (cl, snapOf cl.list ip) ∧
      (snapOf cl.list ip).map absEntry = snapshot (cl.list.map absEntry) (absIP ip) := by
  refine ⟨?_, ?_⟩
  · let q : ListElem Code.CipherEntry → Bool := fun e => matchesIP (absIP ip) (absEntry e)
    have hlen : (GoRT.len cl.list).toNat = (cl.list.filter q).length + (cl.list.filter (fun e => !q e)).length := by
      rw [← List.length_append]; exact (List.filter_append_perm q cl.list).length_eq.symm
    unfold Code.cipherList.SnapshotForClientIP
    simp only [hlen, ← List.replicate_append_replicate]
    rw [fill ⟨0, Code.CipherEntry.zero⟩ q _ ?_ _ cl.list [] _ 0 (List.nil_append _).symm rfl]
    simp only [Option.bind_eq_bind, Option.bind_some]
    rw [fill ⟨0, Code.CipherEntry.zero⟩ (fun e => !q e) _ ?_ [] cl.list (cl.list.filter q) _ _ (by simp) (by simp)]
    · simp [snapOf, q]
    -- both passes store an element exactly when their test says so
    all_goals
      intro e arr i
      simp only [matchesIP_tie, Option.bind_eq_bind, Option.bind_some, pure]
      cases hq : matchesIP (absIP ip) (absEntry e) <;> simp [q, hq]
  · simp only [snapOf, List.map_append, snapshot, List.filter_map]
    rfl

/-- **Update** replaces the list wholesale -/
theorem update_tie (cl : Code.cipherList) (src : List (ListElem Code.CipherEntry)) :
    Code.cipherList.Update cl src = some { cl with list := src } := rfl

/-- **MarkUsedByClientIP**: never panics; move-to-front of the element when it belongs to the current list (a stale
    element leaves the list alone) and the client IP recorded on its entry — the model's `markUsed`.  Hypothesis:
    an element's identity determines the immutable fields of its entry (the caller's `e` and the list's element
    with the same identity are the same Go object). -/
theorem markUsed_tie (cl : Code.cipherList) (e : ListElem Code.CipherEntry) (ip : Opaque "netip.Addr")
    (hid : ∀ x ∈ cl.list, x.id = e.id → x.Value.ID = e.Value.ID ∧ x.Value.CryptoKey = e.Value.CryptoKey) :
    ∃ cl', Code.cipherList.MarkUsedByClientIP cl e ip = some cl' ∧ cl'.CipherList = cl.CipherList ∧
      cl'.list.map absEntry = markUsed (cl.list.map absEntry) e.id (absIP ip) := by
  refine ⟨_, rfl, rfl, ?_⟩
  have hfind : (cl.list.map absEntry).find? (fun x => x.ref == e.id) = (cl.list.find? (fun x => x.id == e.id)).map absEntry :=
    List.find?_map
  simp only [markUsed, hfind, moveToFront]
  cases hf : cl.list.find? (fun x => x.id == e.id) with
  | none =>
    rw [setValue_of_ne _ _ _ fun x hx hxe => by simpa [hxe] using List.find?_eq_none.1 hf x hx]
    rfl
  | some x =>
    have hx : x.id = e.id := eq_of_beq (List.find?_some (p := fun x : ListElem Code.CipherEntry => x.id == e.id) hf)
    obtain ⟨h1, h2⟩ := hid x (List.mem_of_find?_eq_some hf) hx
    simp only [Option.map_some, setValue, List.map_cons, hx, beq_self_eq_true, if_true]
    rw [← setValue, setValue_of_ne _ _ _ fun y hy => by simpa using (List.mem_filter.1 hy).2]
    simp only [absEntry, h1, h2, hx, List.filter_map]
    rfl

section
variable (saltSize tagSize : Opaque "shadowsocks.EncryptionKey" → Int)
  (unpack : List UInt8 → List UInt8 → Opaque "shadowsocks.EncryptionKey" → List UInt8 × Option String)
  (firstBytes : List UInt8)

/-- `shadowsocks.Unpack(chunkLenBuf[:0], firstBytes[:salt+2+tag], key)` reports no error -/
def opens (k : Opaque "shadowsocks.EncryptionKey") : Bool :=
  (unpack [] (firstBytes.take (saltSize k + 2 + tagSize k).toNat) k).2.isNone

theorem slice_prefix (n : Int) (h0 : 0 ≤ n) (hn : n ≤ (firstBytes.length : Int)) :
    GoRT.slice firstBytes 0 n = some (firstBytes.take n.toNat) :=
  slice_eq_some firstBytes 0 n (Int.le_refl 0) h0 hn

theorem findLoop (ciphers : List (ListElem Code.CipherEntry))
    (body : Int × ListElem Code.CipherEntry → Option (Option Code.CipherEntry × Option (ListElem Code.CipherEntry)) × Unit →
      Option (ForInStep (Option (Option Code.CipherEntry × Option (ListElem Code.CipherEntry)) × Unit)))
    (hbody : ∀ (i : Int) (elt : ListElem Code.CipherEntry), elt ∈ ciphers → body (i, elt) (none, ()) =
      if opens saltSize tagSize unpack firstBytes elt.Value.CryptoKey then some (ForInStep.done (some (some elt.Value, some elt), ()))
      else some (ForInStep.yield (none, ()))) :
    ∀ (n : Nat),
    forIn ((ciphers.zipIdx n).map (fun p => (((p.2 : Nat) : Int), p.1))) (none, ()) body
      = some (match ciphers.find? (fun elt => opens saltSize tagSize unpack firstBytes elt.Value.CryptoKey) with
              | some elt => (some (some elt.Value, some elt), ())
              | none => (none, ())) := by
  induction ciphers with
  | nil => intro n; rfl
  | cons e rest ih =>
    intro n
    rw [List.zipIdx_cons, List.map_cons, List.forIn_cons, hbody _ e List.mem_cons_self, List.find?_cons]
    cases opens saltSize tagSize unpack firstBytes e.Value.CryptoKey
    · exact ih (fun i elt h => hbody i elt (List.mem_cons_of_mem _ h)) (n + 1)
    · rfl

/-- **findEntry**: as long as `firstBytes` covers salt+2+tag of every key tried (otherwise the slice `firstBytes[:…]`
    panics; for the `bytesForKeyFinding` = 50 bytes that `findAccessKey` reads and the generated cipher table this is
    `header_fits` in Props/C01), the translated loop never panics and returns the FIRST element of the snapshot whose key
    opens the header, or (nil, nil) when none does -/
theorem findEntry_tie (ciphers : List (ListElem Code.CipherEntry)) (l : Opaque "slog.Logger")
    (hfits : ∀ elt ∈ ciphers, 0 ≤ saltSize elt.Value.CryptoKey + 2 + tagSize elt.Value.CryptoKey ∧
      saltSize elt.Value.CryptoKey + 2 + tagSize elt.Value.CryptoKey ≤ (firstBytes.length : Int)) :
    Code.findEntry saltSize tagSize unpack firstBytes ciphers l =
      some (match ciphers.find? (fun elt => opens saltSize tagSize unpack firstBytes elt.Value.CryptoKey) with
            | some elt => (some elt.Value, some elt)
            | none => (none, none)) := by
  unfold Code.findEntry
  simp only [GoRT.enum, Option.bind_eq_bind]
  rw [findLoop saltSize tagSize unpack firstBytes ciphers _ ?_ 0]
  · cases ciphers.find? (fun elt => opens saltSize tagSize unpack firstBytes elt.Value.CryptoKey) <;> rfl
  · intro i elt helt
    obtain ⟨h0, hn⟩ := hfits elt helt
    have hs0 : GoRT.slice (List.replicate 2 (0 : UInt8)) 0 0 = some [] := rfl
    simp only [hs0, slice_prefix firstBytes _ h0 hn, Option.bind_some, opens, pure]
    by_cases hnone : (unpack [] (firstBytes.take (saltSize elt.Value.CryptoKey + 2 + tagSize elt.Value.CryptoKey).toNat) elt.Value.CryptoKey).2 = none <;>
      simp [hnone]
end

theorem find_abs (ciphers : List (ListElem Code.CipherEntry)) (valid : Nat → Bool) :
    (ciphers.find? (fun elt => valid elt.Value.CryptoKey.val)).map absEntry = findEntry valid (ciphers.map absEntry) :=
  (List.find?_map (p := fun e : Entry => valid e.key) (f := absEntry)).symm

end OutlineModel.Tie.CipherList
