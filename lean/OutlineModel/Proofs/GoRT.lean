import OutlineModel.Model.GoRT
import OutlineModel.Proofs.ListLemmas
/-
What the ties need to know about the prelude `Model/GoRT.lean` of the translated code: Go maps as finite maps, checked
indexing and slicing on in-range arguments, and (last section) what a `for … range` loop with a `return` inside computes.
-/
namespace OutlineModel.GoRT
namespace GoMap
variable {K V : Type}

@[simp] theorem keys_empty : (GoMap.empty : GoMap K V).keys = [] := rfl
@[simp] theorem size_eq (m : GoMap K V) : m.size = (m.keys.length : Int) := by simp [size, keys]
theorem ext : ∀ {a b : GoMap K V}, a.ents = b.ents → a = b
  | ⟨_⟩, ⟨_⟩, rfl => rfl

variable [DecidableEq K]
@[simp] theorem contains_eq (m : GoMap K V) (k : K) : m.contains k = decide (k ∈ m.keys) := rfl

theorem ents_insert_present (m : GoMap K V) (k : K) (v : V) (h : k ∈ m.keys) :
    (m.insert k v).ents = m.ents.map (fun e => if e.1 = k then (k, v) else e) := by
  simp [insert, h]

theorem ents_insert_absent (m : GoMap K V) (k : K) (v : V) (h : k ∉ m.keys) : (m.insert k v).ents = (k, v) :: m.ents := by
  simp [insert, h]

theorem keys_insert_absent (m : GoMap K V) (k : K) (v : V) (h : k ∉ m.keys) : (m.insert k v).keys = k :: m.keys := by
  rw [keys, ents_insert_absent m k v h]
  rfl

theorem keys_insert_present (m : GoMap K V) (k : K) (v : V) (h : k ∈ m.keys) : (m.insert k v).keys = m.keys := by
  rw [keys, ents_insert_present m k v h]
  exact List.map_map_ite (·.1) _ (fun _ => (k, v)) (fun _ => Eq.symm) _

theorem ents_erase (m : GoMap K V) (k : K) : (m.erase k).ents = m.ents.filter (fun e => ¬ e.1 = k) := rfl

theorem filter_mapIf (l : List (K × V)) (k : K) (v : V) :
    (l.map (fun e => if e.1 = k then (k, v) else e)).filter (fun e => ¬ e.1 = k) = l.filter (fun e => ¬ e.1 = k) := by
  induction l with
  | nil => rfl
  | cons e rest ih =>
    simp only [decide_not] at ih ⊢
    by_cases he : e.1 = k <;> simp [he, ih]

/-- the comma-ok test through the lookup, for ties that reason with `get?`; `contains_eq` is its form through `keys` -/
theorem contains_eq_isSome_get? (m : GoMap K V) (k : K) : m.contains k = (m.get? k).isSome := by
  rw [Bool.eq_iff_iff, get?, Option.isSome_map, List.find?_isSome]
  simp only [contains_eq, keys, List.mem_map, decide_eq_true_eq]

theorem get?_insert (m : GoMap K V) (k k' : K) (v : V) :
    (m.insert k v).get? k' = if k' = k then some v else m.get? k' := by
  unfold insert
  split
  · next hc =>
    -- the key is present: its entry is replaced where it stands
    have h := List.find?_mapIf Prod.fst (fun _ => (k, v)) k k' (fun _ _ => rfl) m.ents
    simp only [Bool.beq_eq_decide_eq, decide_eq_true_eq, eq_comm (a := k)] at h
    rw [get?, h]
    split
    · rw [contains_eq_isSome_get?, get?, Option.isSome_map] at hc
      obtain ⟨e, he⟩ := Option.isSome_iff_exists.1 hc
      rw [he]; rfl
    · rfl
  · unfold get?
    rw [List.find?_cons]
    by_cases h : k = k' <;> simp [h, eq_comm]

theorem get?_erase (m : GoMap K V) (k k' : K) :
    (m.erase k).get? k' = if k' = k then none else m.get? k' := by
  have h := List.find?_filter_key_ne Prod.fst k k' m.ents
  simp only [Bool.beq_eq_decide_eq, ← decide_not, eq_comm (a := k)] at h
  rw [erase, get?, h]
  split <;> rfl

theorem mapIf_absent (l : List (K × V)) (k : K) (v : V) (h : k ∉ l.map (·.1)) :
    l.map (fun e => if e.1 = k then (k, v) else e) = l :=
  (List.map_congr_left fun e he => if_neg fun hh : e.1 = k => h (hh ▸ List.mem_map_of_mem he)).trans (List.map_id' l)

theorem erase_insert (m : GoMap K V) (k : K) (v : V) : (m.insert k v).erase k = m.erase k := by
  by_cases hc : k ∈ m.keys
  · simp only [erase, ents_insert_present m k v hc, filter_mapIf]
  · simp [erase, ents_insert_absent m k v hc]

theorem insert_insert (m : GoMap K V) (k : K) (v v' : V) : (m.insert k v).insert k v' = m.insert k v' := by
  apply ext
  by_cases hk : k ∈ m.keys
  · rw [ents_insert_present _ _ _ ((keys_insert_present m k v hk).symm ▸ hk),
      ents_insert_present _ _ _ hk, ents_insert_present _ _ _ hk, List.map_map]
    exact List.map_congr_left fun e _ => by by_cases he : e.1 = k <;> simp [he]
  · rw [ents_insert_present _ _ _ ((keys_insert_absent m k v hk).symm ▸ List.mem_cons_self),
      ents_insert_absent _ _ _ hk, ents_insert_absent _ _ _ hk, List.map_cons, if_pos rfl,
      mapIf_absent _ _ _ hk]

theorem mem_of_get? {m : GoMap K V} {k : K} {v : V} (h : m.get? k = some v) : (k, v) ∈ m.ents := by
  obtain ⟨e, hf, rfl⟩ := Option.map_eq_some_iff.1 h
  obtain rfl : e.1 = k := by simpa using List.find?_some hf
  exact List.mem_of_find?_eq_some hf

theorem get?_of_mem {m : GoMap K V} {k : K} {v : V} (hnd : m.keys.Nodup) (h : (k, v) ∈ m.ents) : m.get? k = some v := by
  have hk : k ∈ m.keys := List.mem_map_of_mem (f := (·.1)) h
  have hc : (m.get? k).isSome = true := by rw [← contains_eq_isSome_get?, contains_eq, decide_eq_true hk]
  obtain ⟨v', hv'⟩ := Option.isSome_iff_exists.1 hc
  rw [hv', show v' = v from congrArg Prod.snd (List.eq_of_nodup_map Prod.fst hnd (mem_of_get? hv') h rfl)]

theorem erase_absent (m : GoMap K V) (k : K) (h : m.get? k = none) : m.erase k = m := by
  rw [get?, Option.map_eq_none_iff, List.find?_eq_none] at h
  exact ext (List.filter_eq_self.2 fun e he => by simpa using h e he)

end GoMap

theorem iand_ofNat (m n : Nat) : iand (m : Int) (n : Int) = ((m &&& n : Nat) : Int) := rfl

theorem idx_ofNat {α : Type} (a : List α) (i : Nat) : idx a (i : Int) = a[i]? := by
  have : ¬ ((i : Int) < 0) := by omega
  simp [idx, this]

theorem set_ofNat {α : Type} (a : List α) (i : Nat) (v : α) (h : i < a.length) : set a (i : Int) v = some (a.set i v) := by
  have : ¬ ((i : Int) < 0) := by omega
  simp [set, h, this]

theorem set_length_append {α : Type} (done tail : List α) (z e : α) :
    set (done ++ z :: tail) (done.length : Int) e = some (done ++ e :: tail) := by
  rw [set_ofNat _ _ _ (by simp), List.set_append_right _ _ (Nat.le_refl _), Nat.sub_self, List.set_cons_zero]

theorem slice_eq_some {α : Type} (a : List α) (lo hi : Int) (h0 : 0 ≤ lo) (h1 : lo ≤ hi) (h2 : hi ≤ (a.length : Int)) :
    slice a lo hi = some ((a.take hi.toNat).drop lo.toNat) := by
  have : ¬ (lo < 0 ∨ hi < lo ∨ (a.length : Int) < hi) := by omega
  simp [slice, this]

theorem enum_map_snd {α : Type} (l : List α) : (enum l).map (·.2) = l := by
  simp only [enum, List.map_map]
  exact List.zipIdx_map_fst 0 l

theorem setValue_of_ne {α : Type} (l : List (ListElem α)) (id : Nat) (v : α) (h : ∀ x ∈ l, x.id ≠ id) :
    setValue l id v = l :=
  (List.map_congr_left fun x hx => if_neg (by simpa using h x hx)).trans (List.map_id' l)

theorem Opaque.decide_eq {t : String} (a b : Opaque t) : decide (a = b) = (a.val == b.val) := by
  cases a; cases b; simp [Bool.beq_eq_decide_eq]

/-! ### loops of the translated code

A `for … range` loop of a Go function that can `return` from inside the loop is translated into `forIn` over a list in the
`Option` monad, on a state `(r?, s)`: `r?` is the value returned from inside the loop, if any, `s` the variables the loop
assigns.  `loopE step` is what such a loop computes when its body, entered without a pending return, does what `step`
says: go on with a new `s` (`.ok`) or stop with a result (`.error`).  A tie lemma for a function with such a loop states
`step`, shows that the translated body is `step` (no induction), and reads the result off `loopE`.  (`answer` and `asStep`
are functions of their own because a `match` written in a statement is a different term in every declaration.)
A loop without `return` whose body always yields is a fold by core's `List.forIn_pure_yield_eq_foldl`. -/

def loopE {β σ ρ : Type} (step : β → σ → Except (ρ × σ) σ) : List β → σ → Option ρ × σ
  | [], s => (none, s)
  | x :: xs, s =>
    match step x s with
    | .ok s' => loopE step xs s'
    | .error (r, s') => (some r, s')

@[simp] def loopE.answer {σ ρ : Type} : Except (ρ × σ) σ → ForInStep (Option ρ × σ)
  | .ok s => .yield (none, s)
  | .error (r, s) => .done (some r, s)

/-- a whole loop as one step of an enclosing loop: its exit is an exit of the enclosing loop -/
def loopE.asStep {σ ρ : Type} : Option ρ × σ → Except (ρ × σ) σ
  | (none, s) => .ok s
  | (some r, s) => .error (r, s)

theorem forIn_eq_loopE {β σ ρ : Type} (step : β → σ → Except (ρ × σ) σ)
    (body : β → Option ρ × σ → Option (ForInStep (Option ρ × σ))) :
    ∀ (L : List β) (s : σ), (∀ x ∈ L, ∀ s, body x (none, s) = some (loopE.answer (step x s))) →
      forIn L (none, s) body = some (loopE step L s)
  | [], _, _ => rfl
  | x :: xs, s, h => by
    rw [List.forIn_cons, h x List.mem_cons_self s, loopE]
    cases step x s with
    | ok s' => exact forIn_eq_loopE step body xs s' fun y hy => h y (List.mem_cons_of_mem _ hy)
    | error e => rfl

theorem loopE_map {α β σ ρ : Type} (π : β → α) (step : α → σ → Except (ρ × σ) σ) (L : List β) (s : σ) :
    loopE (fun x => step (π x)) L s = loopE step (L.map π) s := by
  induction L generalizing s with
  | nil => rfl
  | cons x xs ih =>
    rw [List.map_cons, loopE, loopE]
    cases step (π x) s with
    | ok s' => exact ih s'
    | error e => rfl

theorem forIn_enum_eq_loopE {α σ ρ : Type} (step : α → σ → Except (ρ × σ) σ)
    (body : Int × α → Option ρ × σ → Option (ForInStep (Option ρ × σ))) (l : List α) (s : σ)
    (h : ∀ i, ∀ a ∈ l, ∀ s, body (i, a) (none, s) = some (loopE.answer (step a s))) :
    forIn (enum l) (none, s) body = some (loopE step l s) := by
  rw [forIn_eq_loopE (fun x => step x.2) body (enum l) s, loopE_map, enum_map_snd]
  intro x hx s
  refine h x.1 x.2 ?_ s
  rw [← enum_map_snd l]
  exact List.mem_map_of_mem hx

theorem loopE_append {β σ ρ : Type} (step : β → σ → Except (ρ × σ) σ) (a b : List β) (s : σ) :
    loopE step (a ++ b) s = match loopE step a s with
      | (none, s') => loopE step b s'
      | r => r := by
  induction a generalizing s with
  | nil => rfl
  | cons x xs ih =>
    rw [List.cons_append, loopE, loopE]
    cases step x s with
    | ok s' => exact ih s'
    | error e => rfl

theorem loopE_flatMap {γ β σ ρ : Type} (g : γ → List β) (step : β → σ → Except (ρ × σ) σ) (L : List γ) (s : σ) :
    loopE (fun c s => loopE.asStep (loopE step (g c) s)) L s = loopE step (L.flatMap g) s := by
  induction L generalizing s with
  | nil => rfl
  | cons c cs ih =>
    rw [List.flatMap_cons, loopE_append, loopE]
    rcases loopE step (g c) s with ⟨_ | r, s'⟩
    · exact ih s'
    · rfl

theorem loopE_find {β σ ρ : Type} (p : β → Bool) (r : β → σ → ρ) (t : β → σ → σ) (s : σ) (L : List β) :
    loopE (fun x s => if p x then .error (r x s, t x s) else .ok s) L s =
      match L.find? p with
      | some x => (some (r x s), t x s)
      | none => (none, s) := by
  induction L with
  | nil => rfl
  | cons x xs ih =>
    rw [loopE, List.find?_cons]
    cases p x <;> simp [ih]

end OutlineModel.GoRT
