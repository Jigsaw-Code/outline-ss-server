import OutlineModel.Proofs.GoRT
import OutlineModel.Gen.Code
import OutlineModel.Gen.Consts
import OutlineModel.Model.Auth
/-
Tie between the translated serverSaltGenerator.splitSalt / IsServerSalt (service/server_salt.go) and the model
Model/Auth.lean (`isServerSalt`).  HMAC (`getTag`) is a parameter: any function.  The literal 4 is `serverSaltMarkLen`,
which the translator inlines; `isServerSalt_tie` is stated with the generated constant.
-/
namespace OutlineModel.Tie.Salt
open OutlineModel OutlineModel.GoRT OutlineModel.Auth
open OutlineModel.Gen

theorem slice_nat {α : Type} (a : List α) (lo hi : Nat) (h1 : lo ≤ hi) (h2 : hi ≤ a.length) :
    GoRT.slice a (lo : Int) (hi : Int) = some ((a.take hi).drop lo) :=
  slice_eq_some a lo hi (Int.natCast_nonneg lo) (Int.ofNat_le.2 h1) (Int.ofNat_le.2 h2)

theorem splitSalt_short (sg : Code.serverSaltGenerator) (salt : List UInt8) (h : salt.length < 4) :
    ∃ e, Code.serverSaltGenerator.splitSalt sg salt = some ([], [], some e) := by
  unfold Code.serverSaltGenerator.splitSalt
  have : (GoRT.len salt - 4 < 0) := by simp [GoRT.len]; omega
  refine ⟨"salt is too short: %d < %d", ?_⟩
  simp [this]

theorem splitSalt_ok (sg : Code.serverSaltGenerator) (salt : List UInt8) (h : 4 ≤ salt.length) :
    Code.serverSaltGenerator.splitSalt sg salt = some (salt.take (salt.length - 4), salt.drop (salt.length - 4), none) := by
  unfold Code.serverSaltGenerator.splitSalt
  have e1 : GoRT.len salt - 4 = ((salt.length - 4 : Nat) : Int) := by simp only [GoRT.len]; omega
  have s1 := slice_nat salt 0 (salt.length - 4) (by omega) (by omega)
  have s2 := slice_nat salt (salt.length - 4) salt.length (by omega) (by omega)
  simp only [e1, List.drop_zero, List.take_length, Int.natCast_zero] at s1 s2 ⊢
  have h0 : ¬ (((salt.length - 4 : Nat) : Int) < 0) := by omega
  simp [h0, s1, s2, GoRT.len]

/-- **IsServerSalt**: as long as the tag has at least 4 bytes (HMAC-SHA1 has 20), the translated function never panics and
    is the model's `isServerSalt` with the generated mark length — for every HMAC, key and salt (short ones included) -/
theorem isServerSalt_tie (getTag : Code.serverSaltGenerator → List UInt8 → List UInt8) (sg : Code.serverSaltGenerator)
    (salt : List UInt8) (htag : ∀ p, 4 ≤ (getTag sg p).length) :
    Code.serverSaltGenerator.IsServerSalt getTag sg salt = some (isServerSalt (getTag sg) Gen.serverSaltMarkLen salt) := by
  unfold Code.serverSaltGenerator.IsServerSalt isServerSalt
  have hm : Gen.serverSaltMarkLen = 4 := rfl
  rw [hm]
  by_cases h : salt.length < 4
  · obtain ⟨e, he⟩ := splitSalt_short sg salt h
    simp [he, h]
  · have st : GoRT.slice (getTag sg (salt.take (salt.length - 4))) 0 4 = some ((getTag sg (salt.take (salt.length - 4))).take 4) := by
      simpa using slice_nat (getTag sg (salt.take (salt.length - 4))) 0 4 (by omega) (htag _)
    simp [splitSalt_ok sg salt (by omega), h, st, Bool.beq_eq_decide_eq]

end OutlineModel.Tie.Salt
