import OutlineModel.Proofs.GoRT
import OutlineModel.Gen.Code
/-
Ties for the translated `streamHandler.handleConnection`, the frame `streamHandler.Handle` puts around it (service/tcp.go)
and `ssService.HandleStream` (service/shadowsocks.go).  The collaborators of handleConnection — the authenticate function
stored in the handler, getProxyRequest, proxyConnection, ctx.Deadline, the clock — are parameters; the calls it makes on
the client connection and on the connection metrics, and its call of absorbProbe, are its effect log, in program order;
the calls of the collaborators that read or write the connections (authenticate, getProxyRequest, proxyConnection) are
entered in the same log ("call …"), so that the order of "arm the deadline" / "read the first bytes" / "report" / "clear
the deadline" / "relay" is part of what is proved.  `handleConnection_tie` gives the closed form of the result and of the
log for every value of every parameter.
-/
namespace OutlineModel.Tie.Handle
open OutlineModel OutlineModel.GoRT
open OutlineModel.Gen

abbrev Conn := Opaque "transport.StreamConn"

/-- the read deadline armed before authenticating; `cd` is what `ctx.Deadline()` answers, `rt` the handler's `readTimeout` -/
def readDeadline (cd : Int × Bool) (now rt : Int) : Int :=
  if cd.2 = true ∧ cd.1 < now + rt then cd.1 else now + rt

theorem readDeadline_cases (cd : Int × Bool) (now rt : Int) :
    readDeadline cd now rt = now + rt ∨ (cd.2 = true ∧ readDeadline cd now rt = cd.1 ∧ cd.1 < now + rt) := by
  unfold readDeadline
  by_cases hc : cd.2 = true ∧ cd.1 < now + rt
  · exact .inr ⟨hc.1, if_pos hc, hc.2⟩
  · exact .inl (if_neg hc)

def armEffs (cd : Int × Bool) (now rt : Int) (oc : Conn) : List Eff :=
  (if cd.2 = true then [({ name := "Conn.SetDeadline", args := [], vals := [[Atom.tok oc.val], [Atom.int cd.1]] } : Eff)] else [])
  ++ [{ name := "Conn.SetReadDeadline", args := [], vals := [[Atom.tok oc.val], [Atom.int (readDeadline cd now rt)]] }]

def absorbEff (oc : Conn) (cm : Opaque "service.TCPConnMetrics") (status : String) : Eff :=
  { name := "absorbProbe", args := [], vals := [[Atom.tok oc.val], [Atom.tok cm.val], [Atom.str status], []] }
def authEff (cm : Opaque "service.TCPConnMetrics") (id : String) : Eff :=
  { name := "TCPConnMetrics.AddAuthenticated", args := [], vals := [[Atom.tok cm.val], [Atom.str id]] }
def clearEff (oc : Conn) : Eff :=
  { name := "Conn.SetReadDeadline", args := [], vals := [[Atom.tok oc.val], [Atom.int 0]] }
def drainEff (disc : Opaque "io.Writer") (oc : Conn) : Eff :=
  { name := "io.Copy", args := [], vals := [[Atom.tok disc.val], [Atom.tok oc.val]] }

def callAuth (oc : Conn) : Eff := { name := "call authenticate", args := [], vals := [[Atom.tok oc.val]] }
def callReq (inner : Conn) : Eff := { name := "call getProxyRequest", args := [], vals := [[Atom.tok inner.val]] }
def callRelay (lg : Opaque "slog.Logger") (ctx : Opaque "context.Context") (dial : Opaque "transport.FuncStreamDialer")
    (addr : String) (inner oc : Conn) : Eff :=
  { name := "call proxyConnection", args := [],
    vals := [[Atom.tok lg.val], [Atom.tok ctx.val], [Atom.tok dial.val], [Atom.str addr], [Atom.tok inner.val], [Atom.tok oc.val]] }

section
variable (cd : Int × Bool) (now rt : Int) (oc : Conn) (cm : Opaque "service.TCPConnMetrics") (disc : Opaque "io.Writer")
  (auth : String × Conn × Option String) (req : Conn → String × Option String)
  (relay : Opaque "slog.Logger" → Opaque "context.Context" → Opaque "transport.FuncStreamDialer" → String → Conn → Conn → Option String)
  (lg : Opaque "slog.Logger") (ctx : Opaque "context.Context") (dial : Opaque "transport.FuncStreamDialer")

/-- the closed form: (status returned, calls made); `auth` = (id, innerConn, status of authErr) is what
    `h.authenticate(outerConn)` answered -/
def outcome : Option String × List Eff :=
  let r : Option String × List Eff :=
    match auth.2.2 with
    | some st => (some st, [absorbEff oc cm st])
    | none =>
      match (req auth.2.1).2 with
      | some _ => (some "ERR_READ_ADDRESS", [authEff cm auth.1, callReq auth.2.1, clearEff oc, drainEff disc oc])
      | none => (relay lg ctx dial (req auth.2.1).1 auth.2.1 oc,
          [authEff cm auth.1, callReq auth.2.1, clearEff oc, callRelay lg ctx dial (req auth.2.1).1 auth.2.1 oc])
  (r.1, armEffs cd now rt oc ++ callAuth oc :: r.2)

variable {cd now rt oc cm disc auth req relay lg ctx dial}

theorem outcome_refused {st : String} (h : auth.2.2 = some st) :
    outcome cd now rt oc cm disc auth req relay lg ctx dial =
      (some st, armEffs cd now rt oc ++ [callAuth oc, absorbEff oc cm st]) := by
  simp only [outcome, h]

theorem outcome_bad_address {e : String} (h : auth.2.2 = none) (hr : (req auth.2.1).2 = some e) :
    outcome cd now rt oc cm disc auth req relay lg ctx dial =
      (some "ERR_READ_ADDRESS",
        armEffs cd now rt oc ++ [callAuth oc, authEff cm auth.1, callReq auth.2.1, clearEff oc, drainEff disc oc]) := by
  simp only [outcome, h, hr]

theorem outcome_relayed (h : auth.2.2 = none) (hr : (req auth.2.1).2 = none) :
    outcome cd now rt oc cm disc auth req relay lg ctx dial =
      (relay lg ctx dial (req auth.2.1).1 auth.2.1 oc,
        armEffs cd now rt oc ++
          [callAuth oc, authEff cm auth.1, callReq auth.2.1, clearEff oc, callRelay lg ctx dial (req auth.2.1).1 auth.2.1 oc]) := by
  simp only [outcome, h, hr]
end

def measureEff (conn : Conn) : Eff := { name := "call MeasureConn", args := [], vals := [[Atom.tok conn.val], [], []] }
/-- `AddClosed(status, proxyMetrics, duration)`: the byte counters are written by the counting connection behind the
    translation's back (pointers into them were handed to MeasureConn), so their value is not part of the log (`[]`) -/
def closedEff (cm : Opaque "service.TCPConnMetrics") (status : String) (duration : Int) : Eff :=
  { name := "TCPConnMetrics.AddClosed", args := [], vals := [[Atom.tok cm.val], [Atom.str status], [], [Atom.int duration]] }
def closeEff (mc : Conn) : Eff := { name := "Conn.Close", args := [], vals := [[Atom.tok mc.val]] }
def statusOf : Option String → String
  | none => "OK"
  | some st => st

theorem statusOf_eq_ok (st : Option String) : statusOf st = "OK" ↔ st = none ∨ st = some "OK" := by
  cases st <;> simp [statusOf]

section
variable (ctxDeadline : Opaque "context.Context" → Int × Bool) (measure : Conn → Conn) (since : Int → Int)
  (dial : Opaque "transport.FuncStreamDialer")
  (authenticate : Conn → String × Conn × Option String) (getProxyRequest : Conn → String × Option String)
  (disc : Opaque "io.Writer") (noop : Opaque "service.TCPConnMetrics") (now : Int)
  (proxyConnection : Opaque "slog.Logger" → Opaque "context.Context" → Opaque "transport.FuncStreamDialer" → String → Conn → Conn → Option String)
  (h : Code.streamHandler) (ctx : Opaque "context.Context") (conn oc : Conn) (cm : Opaque "service.TCPConnMetrics")
  (pm : Code.ProxyMetrics)

/-- **streamHandler.handleConnection**: never panics; handler and byte counters come back as they were; status and call log
    are `outcome` of what `ctx.Deadline()` and `h.authenticate(outerConn)` answered -/
theorem handleConnection_tie :
    Code.streamHandler.handleConnection ctxDeadline dial authenticate getProxyRequest disc now proxyConnection h ctx oc cm pm =
      (let o := outcome (ctxDeadline ctx) now h.readTimeout oc cm disc (authenticate oc) getProxyRequest proxyConnection h.logger ctx dial
       some (h, pm, o.1, o.2)) := by
  unfold Code.streamHandler.handleConnection outcome armEffs readDeadline absorbEff authEff clearEff drainEff callAuth callReq callRelay
  rcases hcd : ctxDeadline ctx with ⟨d, ok⟩
  rcases ha : authenticate oc with ⟨id, inner, aerr⟩
  -- the context's deadline counts only when there is one, the address only after a successful authentication
  have hlt := Decidable.em (d < now + h.readTimeout)
  cases ok <;> cases aerr
  · cases hr : (getProxyRequest inner).2 <;> simp [hcd, ha, hr]
  · simp [hcd, ha]
  · cases hr : (getProxyRequest inner).2 <;> rcases hlt with hlt | hlt <;> simp [hcd, ha, hr, hlt]
  · rcases hlt with hlt | hlt <;> simp [hcd, ha, hlt]

/-- **streamHandler.Handle**: nil metrics are replaced by the no-op object; the client connection is wrapped by the
    counting connection; handleConnection runs on the wrapped connection (its whole log appears in place); then exactly one
    `AddClosed` with the status of its result, and only then the wrapped connection is closed. -/
theorem handle_tie :
    Code.streamHandler.Handle ctxDeadline measure since dial authenticate getProxyRequest disc noop now proxyConnection h ctx conn cm =
      (let cm' := if cm = ⟨0⟩ then noop else cm
       let mc := measure conn
       let o := outcome (ctxDeadline ctx) now h.readTimeout mc cm' disc (authenticate mc) getProxyRequest proxyConnection h.logger ctx dial
       some (h, [measureEff conn] ++ o.2 ++ [closedEff cm' (statusOf o.1) (since now), closeEff mc])) := by
  unfold Code.streamHandler.Handle
  simp only [handleConnection_tie]
  -- two independent choices: nil metrics or not, an error from handleConnection or not
  by_cases hc : cm = ⟨0⟩ <;> simp only [hc, decide_true, decide_false, if_true, if_false, Bool.false_eq_true]
  all_goals
    generalize outcome .. = o
    obtain ⟨st, log⟩ := o
    cases st <;> simp [measureEff, closedEff, closeEff, statusOf]

end

/-- **ssService.HandleStream** (service/shadowsocks.go): exactly one call of the stream handler, for this connection, with
    the per-connection metrics object `AddOpenTCPConnection` (a parameter: its calls are not counted) answers for this
    connection — or the nil metrics when the service has none; nothing else is logged -/
theorem handleStream_tie (addOpen : Opaque "service.ServiceMetrics" → Opaque "net.Conn" → Opaque "service.TCPConnMetrics")
    (s : Code.ssService) (ctx : Opaque "context.Context") (conn : Conn) :
    Code.ssService.HandleStream addOpen s ctx conn =
      some { s with eff := s.eff ++ [{ name := "sh.Handle", args := [], vals :=
        [[Atom.tok ctx.val], [Atom.tok conn.val],
         [Atom.tok (if s.metrics ≠ ⟨0⟩ then addOpen s.metrics ⟨conn.val⟩ else ⟨0⟩).val]] }] } := by
  unfold Code.ssService.HandleStream
  by_cases h : s.metrics = ⟨0⟩ <;> simp [h]

end OutlineModel.Tie.Handle
