import OutlineModel.Proofs.GoRT
import OutlineModel.Proofs.TieSalt
import OutlineModel.Gen.Code
/-
Tie for the translated `packetHandler.validatePacket` (service/udp.go).  socks.SplitAddr, socks.Addr.String,
net.ResolveUDPAddr, the target IP validator stored in the handler and ensureConnectionError are parameters.
`validatePacket_tie` is the function's decision tree, for every value of every parameter; the one precondition —
SplitAddr returns no more bytes than it was given (it returns a prefix) — is what keeps `textData[len(tgtAddr):]` in
range.
-/
namespace OutlineModel.Tie.ValidatePacket
open OutlineModel OutlineModel.GoRT
open OutlineModel.Gen

abbrev UAddr := Opaque "net.UDPAddr"

section
variable (addrString : List UInt8 → String) (resolve : String → String → UAddr × Option String)
  (split : List UInt8 → List UInt8) (ensure : Option String → String → String → Option String)
  (validator : List UInt8 → Option String) (ipOf : UAddr → List UInt8)

/-- the decision tree of validatePacket: (payload, target, error status) -/
def decide' (text : List UInt8) : List UInt8 × UAddr × Option String :=
  if split text = [] then ([], ⟨0⟩, some "ERR_READ_ADDRESS")
  else if (resolve "udp" (addrString (split text))).2 ≠ none then ([], ⟨0⟩, some "ERR_RESOLVE_ADDRESS")
  else if validator (ipOf (resolve "udp" (addrString (split text))).1) ≠ none then
    ([], ⟨0⟩, ensure (validator (ipOf (resolve "udp" (addrString (split text))).1)) "ERR_ADDRESS_INVALID" "invalid address")
  else (text.drop (split text).length, (resolve "udp" (addrString (split text))).1, none)

theorem decide'_status (text : List UInt8) :
    (decide' addrString resolve split ensure validator ipOf text).2.2 =
      if split text = [] then some "ERR_READ_ADDRESS"
      else if (resolve "udp" (addrString (split text))).2 ≠ none then some "ERR_RESOLVE_ADDRESS"
      else if validator (ipOf (resolve "udp" (addrString (split text))).1) ≠ none then
        ensure (validator (ipOf (resolve "udp" (addrString (split text))).1)) "ERR_ADDRESS_INVALID" "invalid address"
      else none := by
  simp only [decide', apply_ite Prod.snd]

theorem validatePacket_tie (h : Code.packetHandler) (text : List UInt8) (hpre : (split text).length ≤ text.length) :
    Code.packetHandler.validatePacket addrString resolve split ensure validator ipOf h text =
      (let r := decide' addrString resolve split ensure validator ipOf text
       some (h, r.1, r.2.1, r.2.2)) := by
  unfold Code.packetHandler.validatePacket decide'
  have hs := Tie.Salt.slice_nat text (split text).length text.length hpre (Nat.le_refl _)
  by_cases h1 : split text = []
  · simp [h1]
  · by_cases h2 : (resolve "udp" (addrString (split text))).2 = none
    · by_cases h3 : validator (ipOf (resolve "udp" (addrString (split text))).1) = none
      · simp [h1, h2, h3, GoRT.len, hs]
      · simp [h1, h2, h3]
    · simp [h1, h2]

end

/-- the precondition of `validatePacket_tie` is needed: when SplitAddr returns more than it was given and the packet gets
    as far as the final slice expression (`h2`, `h3`), the translated code panics -/
theorem validatePacket_panics_iff_bad_split (addrString : List UInt8 → String) (resolve : String → String → UAddr × Option String)
    (split : List UInt8 → List UInt8) (ensure : Option String → String → String → Option String)
    (validator : List UInt8 → Option String) (ipOf : UAddr → List UInt8) (h : Code.packetHandler) (text : List UInt8)
    (hbad : text.length < (split text).length)
    (h2 : (resolve "udp" (addrString (split text))).2 = none)
    (h3 : validator (ipOf (resolve "udp" (addrString (split text))).1) = none) :
    Code.packetHandler.validatePacket addrString resolve split ensure validator ipOf h text = none := by
  unfold Code.packetHandler.validatePacket
  have h1 : split text ≠ [] := fun h => by simp [h] at hbad
  have : GoRT.slice text (GoRT.len (split text)) (GoRT.len text) = none := by
    simp [GoRT.slice, GoRT.len, Int.ofNat_lt.2 hbad]
  simp [h1, h2, h3, this]

end OutlineModel.Tie.ValidatePacket
