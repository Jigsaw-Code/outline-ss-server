import OutlineModel.Model.CipherList
import OutlineModel.Proofs.ListLemmas
/- On a list with distinct `ref`s, `markUsed` leaves the list alone (stale ref) or moves one element to the front
   (`markUsed_cases`): whatever does not depend on `lastIP` (the configured (id, key) pairs, the refs) is only permuted.
   Without distinct refs none of this holds: the `filter` in `markUsed` drops EVERY element with that ref. -/
namespace OutlineModel.CipherList

theorem snapshot_perm (l : List Entry) (ip : Option Nat) : (snapshot l ip).Perm l :=
  List.filter_append_perm (matchesIP ip) l

theorem mem_snapshot {l : List Entry} {ip : Option Nat} {e : Entry} : e ∈ snapshot l ip ↔ e ∈ l :=
  (snapshot_perm l ip).mem_iff

theorem findEntry_none_iff {valid : Nat → Bool} {l : List Entry} {ip : Option Nat} :
    findEntry valid (snapshot l ip) = none ↔ ∀ e ∈ l, valid e.key = false := by
  simp only [findEntry, List.find?_eq_none, mem_snapshot, Bool.not_eq_true]

theorem findEntry_sound {valid : Nat → Bool} {l : List Entry} {ip : Option Nat} {e : Entry}
    (h : findEntry valid (snapshot l ip) = some e) : e ∈ l ∧ valid e.key = true :=
  ⟨mem_snapshot.1 (List.mem_of_find?_eq_some h), List.find?_some (p := fun e : Entry => valid e.key) h⟩

theorem findIndex_isSome_iff (valid : Nat → Bool) (snap : List Entry) :
    (findIndex valid snap).isSome = (findEntry valid snap).isSome := by
  rw [Bool.eq_iff_iff, findEntry, List.find?_isSome, ← List.findIdx_lt_length, findIndex]
  split <;> simp [*]

theorem lookup_cases (l : List Entry) (ip : Option Nat) (valid : Nat → Bool) :
    (∃ e i, findEntry valid (snapshot l ip) = some e ∧ lookup l ip valid = (markUsed l e.ref ip, some (e, i))) ∨
    (findEntry valid (snapshot l ip) = none ∧ lookup l ip valid = (l, none)) := by
  have hiff := findIndex_isSome_iff valid (snapshot l ip)
  cases hf : findEntry valid (snapshot l ip) with
  | none => exact .inr ⟨rfl, by simp only [lookup, hf]⟩
  | some e =>
    cases hi : findIndex valid (snapshot l ip) with
    | none => simp [hf, hi] at hiff
    | some i => exact .inl ⟨e, i, rfl, by simp only [lookup, hf, hi]⟩

theorem lookup_snd (l : List Entry) (ip : Option Nat) (valid : Nat → Bool) :
    (lookup l ip valid).2.map Prod.fst = findEntry valid (snapshot l ip) := by
  rcases lookup_cases l ip valid with ⟨e, i, hf, hl⟩ | ⟨hf, hl⟩ <;> rw [hl, hf] <;> rfl

theorem lookup_found {l : List Entry} {ip : Option Nat} {valid : Nat → Bool} {e : Entry} {i : Nat}
    (h : (lookup l ip valid).2 = some (e, i)) : findEntry valid (snapshot l ip) = some e := by
  rw [← lookup_snd, h]
  rfl

theorem lookup_none_iff {l : List Entry} {ip : Option Nat} {valid : Nat → Bool} :
    (lookup l ip valid).2 = none ↔ ∀ e ∈ l, valid e.key = false := by
  rw [← findEntry_none_iff (ip := ip), ← lookup_snd, Option.map_eq_none_iff]

theorem lookup_eq_none {l : List Entry} {valid : Nat → Bool} (h : ∀ e ∈ l, valid e.key = false) (ip : Option Nat) :
    lookup l ip valid = (l, none) := by
  simp only [lookup, findEntry_none_iff.2 h]

def cfg (e : Entry) : String × Nat := (e.id, e.key)

theorem markUsed_stale {l : List Entry} {t : Nat} (h : t ∉ l.map Entry.ref) (ip : Option Nat) :
    markUsed l t ip = l := by
  unfold markUsed
  rw [(List.find?_key_eq_none Entry.ref).2 h]

theorem markUsed_split {l1 l2 : List Entry} {e : Entry} (hnd : ((l1 ++ e :: l2).map Entry.ref).Nodup)
    (ip : Option Nat) :
    markUsed (l1 ++ e :: l2) e.ref ip = { e with lastIP := ip } :: (l1 ++ l2) := by
  rw [List.map_append, List.map_cons, List.nodup_append, List.nodup_cons] at hnd
  have h1 : e.ref ∉ l1.map Entry.ref := fun hm => hnd.2.2 _ hm _ List.mem_cons_self rfl
  have h2 : e.ref ∉ l2.map Entry.ref := hnd.2.1.1
  have hf : (l1 ++ e :: l2).find? (fun x => x.ref == e.ref) = some e := by
    rw [List.find?_append, (List.find?_key_eq_none Entry.ref).2 h1,
      List.find?_cons_of_pos (p := fun x : Entry => x.ref == e.ref) (beq_self_eq_true e.ref)]
    rfl
  have hq : (l1 ++ e :: l2).filter (fun x => !(x.ref == e.ref)) = l1 ++ l2 := by
    rw [List.filter_append, List.filter_cons_of_neg (by simp), List.filter_key_ne_eq_self Entry.ref h1,
      List.filter_key_ne_eq_self Entry.ref h2]
  unfold markUsed
  rw [hf, hq]

theorem markUsed_cases {l : List Entry} (hnd : (l.map (·.ref)).Nodup) (t : Nat) (ip : Option Nat) :
    (t ∉ l.map Entry.ref ∧ markUsed l t ip = l) ∨
    ∃ l1 e l2, l = l1 ++ e :: l2 ∧ e.ref = t ∧ markUsed l t ip = { e with lastIP := ip } :: (l1 ++ l2) := by
  by_cases h : t ∈ l.map Entry.ref
  · obtain ⟨e, he, rfl⟩ := List.mem_map.1 h
    obtain ⟨l1, l2, rfl⟩ := List.append_of_mem he
    exact .inr ⟨l1, e, l2, rfl, rfl, markUsed_split hnd ip⟩
  · exact .inl ⟨h, markUsed_stale h ip⟩

theorem markUsed_map_perm {β : Type} (f : Entry → β) (hf : ∀ e ip, f { e with lastIP := ip } = f e)
    {l : List Entry} (hnd : (l.map (·.ref)).Nodup) (t : Nat) (ip : Option Nat) :
    ((markUsed l t ip).map f).Perm (l.map f) := by
  rcases markUsed_cases hnd t ip with ⟨-, h⟩ | ⟨l1, e, l2, rfl, _, h⟩
  · rw [h]
  · rw [h, List.map_cons, hf]
    exact (List.perm_middle.map f).symm

theorem lookup_map_perm {β : Type} (f : Entry → β) (hf : ∀ e ip, f { e with lastIP := ip } = f e)
    {l : List Entry} (hnd : (l.map (·.ref)).Nodup) (ip : Option Nat) (valid : Nat → Bool) :
    ((lookup l ip valid).1.map f).Perm (l.map f) := by
  rcases lookup_cases l ip valid with ⟨e', i', _, hl⟩ | ⟨_, hl⟩
  · rw [hl]; exact markUsed_map_perm f hf hnd e'.ref ip
  · rw [hl]

end OutlineModel.CipherList
