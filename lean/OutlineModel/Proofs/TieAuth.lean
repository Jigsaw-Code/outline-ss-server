import OutlineModel.Proofs.GoRT
import OutlineModel.Proofs.TieReplay
import OutlineModel.Gen.Code
/-
Tie for the translated stream authenticator — the function literal `NewShadowsocksStreamAuthenticator` returns
(service/tcp.go; the constructor's nil defaults for `metrics` and `l` are outside the literal and not translated).  Its
captured variables (cipher list, replay cache, metrics, logger) are parameters; `findAccessKey`, `remoteIP`, the salt
generator's `IsServerSalt`, and the constructors of the encrypted reader and writer are parameters too; the replay cache
is the translated `ReplayCache` and `replayCache.Add` is the translated `Add` (Proofs/TieReplay ties it to the model).
`authenticator_tie` is the closed form of the function for every value of every parameter: which status, which key id,
what happens to the cache, which calls.  The closed form `outcome` has one equation per branch of the key search's
answer (`outcome_error`, `outcome_nil_entry`, `outcome_found`); the found branch is also stated about the translated
function itself with the cache read through the model (`authenticator_found`; flattest: `authenticator_found_model`).
`FA` is what `Code.findAccessKey` returns minus its effect log (`C01.code_authenticate_end_to_end` composes the two).
The equations take many explicit arguments in the order of the section variables, not of `outcome`: give the
hypotheses by name (`outcome_error (h := herr) ..`).
-/
namespace OutlineModel.Tie.Auth
open OutlineModel OutlineModel.GoRT
open OutlineModel.Gen

abbrev Conn := Opaque "transport.StreamConn"
abbrev FA := Option Code.CipherEntry × Opaque "io.Reader" × List UInt8 × Int × Option String

def searchEff (metrics : Opaque "service.ShadowsocksConnMetrics") (found : Bool) (t : Int) : Eff :=
  { name := "ShadowsocksConnMetrics.AddCipherSearch", args := [], vals := [[Atom.tok metrics.val], [Atom.bool found], [Atom.int t]] }
def saltGenEff (w : Opaque "shadowsocks.Writer") (g : Opaque "service.ServerSaltGenerator") : Eff :=
  { name := "Writer.SetSaltGenerator", args := [], vals := [[Atom.tok w.val], [Atom.tok g.val]] }

/-- the closed form: (cache afterwards, key id, wrapped connection, error status, calls) or a panic -/
def outcome (newReader : Opaque "io.Reader" → Opaque "shadowsocks.EncryptionKey" → Opaque "shadowsocks.Reader")
    (newWriter : Conn → Opaque "shadowsocks.EncryptionKey" → Opaque "shadowsocks.Writer")
    (isSrv : Opaque "service.ServerSaltGenerator" → List UInt8 → Bool)
    (wrap : Conn → Opaque "shadowsocks.Reader" → Opaque "shadowsocks.Writer" → Conn)
    (fa : FA) (rc : Code.ReplayCache) (metrics : Opaque "service.ShadowsocksConnMetrics") (conn : Conn) :
    Option (Code.ReplayCache × String × Conn × Option String × List Eff) :=
  if fa.2.2.2.2 ≠ none then some (rc, "", ⟨0⟩, some "ERR_CIPHER", [searchEff metrics false fa.2.2.2.1])
  else match fa.1 with
    | none => none     -- a nil entry without an error: the code dereferences it
    | some e =>
      if isSrv e.SaltGenerator fa.2.2.1 = true then
        some (rc, e.ID, ⟨0⟩, some "ERR_REPLAY_SERVER", [searchEff metrics true fa.2.2.2.1])
      else match Code.ReplayCache.Add rc (String.toUTF8 e.ID).toList fa.2.2.1 with
        | none => none
        | some (rc', fresh) =>
          if fresh = true then
            some (rc', e.ID, wrap conn (newReader fa.2.1 e.CryptoKey) (newWriter conn e.CryptoKey), none,
              [searchEff metrics true fa.2.2.2.1, saltGenEff (newWriter conn e.CryptoKey) e.SaltGenerator])
          else some (rc', e.ID, ⟨0⟩, some "ERR_REPLAY_CLIENT", [searchEff metrics true fa.2.2.2.1])

variable (newReader : Opaque "io.Reader" → Opaque "shadowsocks.EncryptionKey" → Opaque "shadowsocks.Reader")
  (newWriter : Conn → Opaque "shadowsocks.EncryptionKey" → Opaque "shadowsocks.Writer")
  (isSrv : Opaque "service.ServerSaltGenerator" → List UInt8 → Bool)
  (wrap : Conn → Opaque "shadowsocks.Reader" → Opaque "shadowsocks.Writer" → Conn)

theorem outcome_found (e : Code.CipherEntry) (rd : Opaque "io.Reader") (salt : List UInt8) (t : Int)
    (rc : Code.ReplayCache) (metrics : Opaque "service.ShadowsocksConnMetrics") (conn : Conn) :
    outcome newReader newWriter isSrv wrap (some e, rd, salt, t, none) rc metrics conn =
      if isSrv e.SaltGenerator salt = true then
        some (rc, e.ID, ⟨0⟩, some "ERR_REPLAY_SERVER", [searchEff metrics true t])
      else match Code.ReplayCache.Add rc (String.toUTF8 e.ID).toList salt with
        | none => none
        | some (rc', fresh) =>
          if fresh = true then
            some (rc', e.ID, wrap conn (newReader rd e.CryptoKey) (newWriter conn e.CryptoKey), none,
              [searchEff metrics true t, saltGenEff (newWriter conn e.CryptoKey) e.SaltGenerator])
          else some (rc', e.ID, ⟨0⟩, some "ERR_REPLAY_CLIENT", [searchEff metrics true t]) := by
  simp [outcome]

theorem outcome_nil_entry (rd : Opaque "io.Reader") (salt : List UInt8) (t : Int)
    (rc : Code.ReplayCache) (metrics : Opaque "service.ShadowsocksConnMetrics") (conn : Conn) :
    outcome newReader newWriter isSrv wrap (none, rd, salt, t, none) rc metrics conn = none := by
  simp [outcome]

theorem outcome_error (rc : Code.ReplayCache) (metrics : Opaque "service.ShadowsocksConnMetrics") (conn : Conn) (fa : FA) (h : fa.2.2.2.2 ≠ none) :
    outcome newReader newWriter isSrv wrap fa rc metrics conn =
      some (rc, "", ⟨0⟩, some "ERR_CIPHER", [searchEff metrics false fa.2.2.2.1]) := by
  unfold outcome; rw [if_pos h]

section
variable (findAccessKey : Conn → Opaque "netip.Addr" → Opaque "service.CipherList" → Opaque "slog.Logger" → FA)
  (remoteIP : Conn → Opaque "netip.Addr") (ciphers : Opaque "service.CipherList") (rc : Code.ReplayCache)
  (metrics : Opaque "service.ShadowsocksConnMetrics") (l : Opaque "slog.Logger") (conn : Conn)

theorem authenticator_tie :
    Code.NewShadowsocksStreamAuthenticator newReader newWriter isSrv wrap findAccessKey remoteIP ciphers rc metrics l conn =
      outcome newReader newWriter isSrv wrap (findAccessKey conn (remoteIP conn) ciphers l) rc metrics conn := by
  unfold Code.NewShadowsocksStreamAuthenticator outcome searchEff saltGenEff
  rcases hfa : findAccessKey conn (remoteIP conn) ciphers l with ⟨ent, rd, salt, t, err⟩
  cases err with
  | some e => simp [hfa]
  | none =>
    cases ent with
    | none => simp [hfa]
    | some e =>
      by_cases hs : isSrv e.SaltGenerator salt = true
      · simp [hfa, hs]
      · simp [hfa, hs]
        -- both sides now hang on the cache's answer (`simp` has written `String.toUTF8 e.ID` as `e.ID.toByteArray`)
        cases Code.ReplayCache.Add rc e.ID.toByteArray.toList salt with
        | none => simp
        | some p => rcases p with ⟨rc', _ | _⟩ <;> simp

variable {e : Code.CipherEntry} {rd : Opaque "io.Reader"} {salt : List UInt8} {t : Int}
  (hfa : findAccessKey conn (remoteIP conn) ciphers l = (some e, rd, salt, t, none))
include hfa

/-- `authenticator_tie` when the key search found an entry, with the translated `Add` replaced by the model's `add` on
    the checksum of (key id, salt) (`Tie.Replay.add_eq`); the cache afterwards is known through `Tie.Replay.abs` only -/
theorem authenticator_found :
    ∃ rc', Tie.Replay.abs rc' = ((Tie.Replay.abs rc).add (Replay.preHash (String.toUTF8 e.ID).toList salt)).1 ∧
      Code.NewShadowsocksStreamAuthenticator newReader newWriter isSrv wrap findAccessKey remoteIP ciphers rc metrics l conn =
        some (if isSrv e.SaltGenerator salt = true then (rc, e.ID, ⟨0⟩, some "ERR_REPLAY_SERVER", [searchEff metrics true t])
          else (rc', e.ID,
            if ((Tie.Replay.abs rc).add (Replay.preHash (String.toUTF8 e.ID).toList salt)).2 = true then
              (wrap conn (newReader rd e.CryptoKey) (newWriter conn e.CryptoKey), none,
                [searchEff metrics true t, saltGenEff (newWriter conn e.CryptoKey) e.SaltGenerator])
            else (⟨0⟩, some "ERR_REPLAY_CLIENT", [searchEff metrics true t]))) := by
  obtain ⟨rc', hA, habs⟩ := Tie.Replay.add_eq rc (String.toUTF8 e.ID).toList salt
  refine ⟨rc', habs, ?_⟩
  rw [authenticator_tie, hfa, outcome_found, hA]
  by_cases hs : isSrv e.SaltGenerator salt = true
  · simp only [hs, if_true]
  · cases hb : ((Tie.Replay.abs rc).add (Replay.preHash (String.toUTF8 e.ID).toList salt)).2 <;> simp [hs]

/-- `authenticator_found` with only what the replay model decides kept: the cache and the status -/
theorem authenticator_found_model :
    ∃ rc' c' st effs,
      Code.NewShadowsocksStreamAuthenticator newReader newWriter isSrv wrap findAccessKey remoteIP ciphers rc metrics l conn =
        some (rc', e.ID, c', st, effs) ∧
      if isSrv e.SaltGenerator salt = true then st = some "ERR_REPLAY_SERVER" ∧ rc' = rc
      else Tie.Replay.abs rc' = ((Tie.Replay.abs rc).add (Replay.preHash (String.toUTF8 e.ID).toList salt)).1 ∧
        st = (if ((Tie.Replay.abs rc).add (Replay.preHash (String.toUTF8 e.ID).toList salt)).2 = true then none
              else some "ERR_REPLAY_CLIENT") := by
  obtain ⟨rc', habs, h⟩ := authenticator_found newReader newWriter isSrv wrap findAccessKey remoteIP ciphers rc metrics l conn hfa
  rw [h]
  by_cases hs : isSrv e.SaltGenerator salt = true
  · exact ⟨_, _, _, _, by rw [if_pos hs], by rw [if_pos hs]; exact ⟨rfl, rfl⟩⟩
  · simp only [if_neg hs]
    split <;> exact ⟨_, _, _, _, rfl, habs, rfl⟩

end

end OutlineModel.Tie.Auth
