import OutlineModel.Model.CipherList
import OutlineModel.Proofs.CipherList
/-
"First configured wins" (for C01).  Several access keys may be configured with the same (cipher, secret)
pair (`Entry.key`) under different ids.  In every state reachable from a freshly configured
list by lookups (and wholesale updates to freshly configured lists) a lookup never returns a
shadowed entry: it returns the first entry of its key group, and the key groups keep their
configured relative order.

`OnlyLookups` excludes `.mark` entirely: a bare `.mark` of a shadowed ref really breaks the
invariant (last `example`).
-/
namespace OutlineModel.CipherList

def Fresh (l : List Entry) : Prop := (l.map (·.ref)).Nodup ∧ ∀ e ∈ l, e.lastIP = none

def Shadowed (l : List Entry) (b : Entry) : Prop :=
  ∃ pre post a, l = pre ++ b :: post ∧ a ∈ pre ∧ a.key = b.key

def FirstWinsInv (l : List Entry) : Prop :=
  (l.map (·.ref)).Nodup ∧ ∀ b, Shadowed l b → b.lastIP = none

/- `[a, b].Sublist l` says that `a` comes before `b` in `l`: the form in which `Shadowed` (`shadowed_iff`) and
   `KeyBefore` are used. -/

theorem pair_sublist_iff {α : Type} {a b : α} {l : List α} :
    [a, b].Sublist l ↔ ∃ pre mid post, l = pre ++ a :: (mid ++ b :: post) := by
  constructor
  · intro h
    obtain ⟨r1, r2, rfl, ha, hb⟩ := List.cons_sublist_iff.1 h
    obtain ⟨pre, mid, rfl⟩ := List.append_of_mem ha
    obtain ⟨mid', post, rfl⟩ := List.append_of_mem (List.singleton_sublist.1 hb)
    exact ⟨pre, mid ++ mid', post, by simp⟩
  · rintro ⟨pre, mid, post, rfl⟩
    exact ((List.singleton_sublist.2 (by simp)).cons_cons a).trans (List.sublist_append_right _ _)

theorem sublist_of_append_cons {α : Type} {s l1 l2 : List α} {e : α} (h : s.Sublist (l1 ++ e :: l2)) (he : e ∉ s) :
    s.Sublist (l1 ++ l2) := by
  obtain ⟨s1, s2, rfl, h1, h2⟩ := List.sublist_append_iff.1 h
  rcases List.sublist_cons_iff.1 h2 with h2 | ⟨r, rfl, _⟩
  · exact h1.append h2
  · simp at he

theorem find?_eq_some_before {α : Type} {p : α → Bool} {l : List α} {a e : α} (hnd : l.Nodup)
    (hf : l.find? p = some e) (h : [a, e].Sublist l) : p a = false := by
  induction l with
  | nil => cases hf
  | cons x xs ih =>
    rw [List.nodup_cons] at hnd
    rw [List.find?_cons] at hf
    cases hp : p x <;> rw [hp] at hf
    · rcases List.sublist_cons_iff.1 h with h | ⟨r, hr, _⟩
      · exact ih hnd.2 hf h
      · cases hr; exact hp
    · cases hf
      -- `e` is the head: it cannot occur again behind `a`
      rcases List.sublist_cons_iff.1 h with h | ⟨r, hr, h⟩
      · exact absurd (h.subset (by simp)) hnd.1
      · cases hr; exact absurd (h.subset (by simp)) hnd.1

theorem shadowed_iff {l : List Entry} {b : Entry} : Shadowed l b ↔ ∃ a, [a, b].Sublist l ∧ a.key = b.key := by
  constructor
  · rintro ⟨pre, post, a, rfl, ha, hk⟩
    obtain ⟨p, q, rfl⟩ := List.append_of_mem ha
    exact ⟨a, pair_sublist_iff.2 ⟨p, q, post, by simp⟩, hk⟩
  · rintro ⟨a, h, hk⟩
    obtain ⟨pre, mid, post, rfl⟩ := pair_sublist_iff.1 h
    exact ⟨pre ++ a :: mid, post, a, by simp, by simp, hk⟩

theorem firstWinsInv_iff {l : List Entry} :
    FirstWinsInv l ↔ (l.map (·.ref)).Nodup ∧ l.Pairwise (fun a b => a.key = b.key → b.lastIP = none) := by
  simp only [FirstWinsInv, shadowed_iff, List.pairwise_iff_forall_sublist]
  exact and_congr_right fun _ => ⟨fun h a b hab hk => h b ⟨a, hab, hk⟩, fun h b ⟨a, hab, hk⟩ => h hab hk⟩

theorem shadowed_mem {l : List Entry} {b : Entry} (h : Shadowed l b) : b ∈ l := by
  obtain ⟨pre, post, a, rfl, _, _⟩ := h
  simp

theorem fresh_inv {l : List Entry} (h : Fresh l) : FirstWinsInv l :=
  ⟨h.1, fun b hb => h.2 b (shadowed_mem hb)⟩

theorem pair_sublist_snapshot {l : List Entry} {ip : Option Nat} {a e : Entry} (h : [a, e].Sublist l)
    (hm : matchesIP ip e = false) : [a, e].Sublist (snapshot l ip) := by
  unfold snapshot
  cases hma : matchesIP ip a
  · have := h.filter (fun e => !matchesIP ip e)
    simp only [List.filter_cons, hma, hm, Bool.not_false, if_true, List.filter_nil] at this
    exact this.trans (List.sublist_append_right _ _)
  · exact (List.singleton_sublist.2 (List.mem_filter.2 ⟨h.subset (by simp), hma⟩)).append
      (List.singleton_sublist.2 (List.mem_filter.2 ⟨h.subset (by simp), by simp [hm]⟩))

/-- A shadowed `e` has never been marked, so no client IP matches it; its shadower `a` opens the header as well and
    is still in front of it in the snapshot, so the search stops at `a` or earlier. -/
theorem findEntry_not_shadowed {l : List Entry} {ip : Option Nat} {valid : Nat → Bool} {e : Entry}
    (hinv : FirstWinsInv l) (hf : findEntry valid (snapshot l ip) = some e) : ¬ Shadowed l e := by
  intro hs
  have hm : matchesIP ip e = false := by
    unfold matchesIP
    rw [hinv.2 e hs]
    cases ip <;> rfl
  obtain ⟨a, hae, hk⟩ := shadowed_iff.1 hs
  have hnd : (snapshot l ip).Nodup := (snapshot_perm l ip).nodup_iff.2
    (List.Pairwise.of_map (·.ref) (fun _ _ hne heq => hne (congrArg _ heq)) hinv.1)
  have hva := find?_eq_some_before hnd hf (pair_sublist_snapshot hae hm)
  rw [hk, (findEntry_sound hf).2] at hva
  cases hva

theorem lookup_not_shadowed {l : List Entry} {ip : Option Nat} {valid : Nat → Bool} {e : Entry} {i : Nat}
    (hinv : FirstWinsInv l) (h : (lookup l ip valid).2 = some (e, i)) : ¬ Shadowed l e :=
  findEntry_not_shadowed hinv (lookup_found h)

theorem findEntry_ref_not_shadowed {l : List Entry} {ip : Option Nat} {valid : Nat → Bool} {e : Entry}
    (hinv : FirstWinsInv l) (hf : findEntry valid (snapshot l ip) = some e) :
    ∀ b ∈ l, b.ref = e.ref → ¬ Shadowed l b := by
  intro b hb hbr
  rw [List.eq_of_nodup_map Entry.ref hinv.1 hb (findEntry_sound hf).1 hbr]
  exact findEntry_not_shadowed hinv hf

theorem markUsed_preserves_inv {l : List Entry} {t : Nat} {ip : Option Nat} (hinv : FirstWinsInv l)
    (ht : ∀ b ∈ l, b.ref = t → ¬ Shadowed l b) : FirstWinsInv (markUsed l t ip) := by
  rcases markUsed_cases hinv.1 t ip with ⟨-, h⟩ | ⟨l1, e, l2, rfl, rfl, h⟩
  · rw [h]; exact hinv
  · have hns := ht e (by simp) rfl
    rw [firstWinsInv_iff] at hinv ⊢
    refine ⟨(markUsed_map_perm (·.ref) (fun _ _ => rfl) hinv.1 _ ip).nodup_iff.2 hinv.1, ?_⟩
    have hp := hinv.2
    rw [List.pairwise_append, List.pairwise_cons] at hp
    obtain ⟨p1, ⟨pe, p2⟩, p12⟩ := hp
    rw [h, List.pairwise_cons, List.pairwise_append]
    refine ⟨fun b hb hk => ?_, p1, p2, fun a ha b hb => p12 a ha b (List.mem_cons_of_mem _ hb)⟩
    -- the moved entry now precedes everything: what was behind it already was, and nothing in front had its key
    rcases List.mem_append.1 hb with hb | hb
    · exact absurd ⟨l1, l2, b, rfl, hb, hk.symm⟩ hns
    · exact pe b hb hk

theorem lookup_preserves_inv {l : List Entry} {ip : Option Nat} {valid : Nat → Bool}
    (hinv : FirstWinsInv l) : FirstWinsInv (lookup l ip valid).1 := by
  rcases lookup_cases l ip valid with ⟨e, i, hf, hl⟩ | ⟨_, hl⟩
  · rw [hl]; exact markUsed_preserves_inv hinv (findEntry_ref_not_shadowed hinv hf)
  · rw [hl]; exact hinv

def Allowed : Op → Prop
  | .lookup _ _ => True
  | .mark _ _ => False
  | .update src => Fresh src

def OnlyLookups (ops : List Op) : Prop := ∀ o ∈ ops, Allowed o

theorem step_preserves_inv {l : List Entry} {o : Op} (hinv : FirstWinsInv l) (ho : Allowed o) :
    FirstWinsInv (step l o) := by
  cases o with
  | lookup ip vs => exact lookup_preserves_inv hinv
  | mark r ip => exact absurd ho id
  | update src => exact fresh_inv ho

theorem run_induction {P : List Entry → Prop} {ops : List Op} (hstep : ∀ l, ∀ o ∈ ops, P l → P (step l o))
    {l : List Entry} (h : P l) : P (run l ops) := by
  induction ops generalizing l with
  | nil => exact h
  | cons o os ih =>
    exact ih (fun l o ho => hstep l o (List.mem_cons_of_mem _ ho)) (hstep l o List.mem_cons_self h)

theorem run_preserves_inv {l : List Entry} {ops : List Op} (hinv : FirstWinsInv l)
    (hops : OnlyLookups ops) : FirstWinsInv (run l ops) :=
  run_induction (fun _ o ho h => step_preserves_inv h (hops o ho)) hinv

theorem first_configured_wins {l0 : List Entry} {ops : List Op} (hfresh : Fresh l0)
    (hops : OnlyLookups ops) :
    FirstWinsInv (run l0 ops) ∧
    ∀ ip valid e i, (lookup (run l0 ops) ip valid).2 = some (e, i) → ¬ Shadowed (run l0 ops) e :=
  have hinv := run_preserves_inv (fresh_inv hfresh) hops
  ⟨hinv, fun _ _ _ _ h => lookup_not_shadowed hinv h⟩

def KeyBefore (l : List Entry) (r s : Nat) : Prop :=
  ∃ x y, [x, y].Sublist l ∧ x.ref = r ∧ y.ref = s ∧ x.key = y.key

theorem markUsed_keyBefore {l : List Entry} {t r s : Nat} {ip : Option Nat} (hnd : (l.map (·.ref)).Nodup)
    (ht : ∀ b ∈ l, b.ref = t → ¬ Shadowed l b) (h : KeyBefore l r s) :
    KeyBefore (markUsed l t ip) r s := by
  rcases markUsed_cases hnd t ip with ⟨-, hm⟩ | ⟨l1, e, l2, rfl, rfl, hm⟩
  · rw [hm]; exact h
  · rw [hm]
    obtain ⟨x, y, hxy, hx, hy, hk⟩ := h
    -- `y` is shadowed by `x`, so it is not the entry moved
    have hye : y ≠ e := fun hye => ht e (by simp) rfl (shadowed_iff.2 ⟨x, hye ▸ hxy, hye ▸ hk⟩)
    by_cases hxe : x = e
    · have hy' : y ∈ l1 ++ l2 := by simpa [hye] using hxy.subset (List.mem_cons_of_mem _ List.mem_cons_self)
      exact ⟨_, y, (List.singleton_sublist.2 hy').cons_cons _, hxe ▸ hx, hy, hxe ▸ hk⟩
    · exact ⟨x, y, (sublist_of_append_cons hxy (by simp [Ne.symm hxe, Ne.symm hye])).cons _, hx, hy, hk⟩

theorem lookup_keyBefore {l : List Entry} {ip : Option Nat} {valid : Nat → Bool} {r s : Nat}
    (hinv : FirstWinsInv l) (h : KeyBefore l r s) : KeyBefore (lookup l ip valid).1 r s := by
  rcases lookup_cases l ip valid with ⟨e, i, hf, hl⟩ | ⟨_, hl⟩
  · rw [hl]; exact markUsed_keyBefore hinv.1 (findEntry_ref_not_shadowed hinv hf) h
  · rw [hl]; exact h

def IsLookup : Op → Prop
  | .lookup _ _ => True
  | _ => False

theorem run_keyBefore {l : List Entry} {ops : List Op} {r s : Nat} (hinv : FirstWinsInv l)
    (hops : ∀ o ∈ ops, IsLookup o) (h : KeyBefore l r s) : KeyBefore (run l ops) r s :=
  (run_induction (P := fun l => FirstWinsInv l ∧ KeyBefore l r s)
    (fun l o ho ⟨hi, hk⟩ => by
      cases o with
      | lookup ip vs => exact ⟨lookup_preserves_inv hi, lookup_keyBefore hi hk⟩
      | mark r ip => exact absurd (hops _ ho) id
      | update src => exact absurd (hops _ ho) id) ⟨hinv, h⟩).2

theorem key_order_preserved {l0 : List Entry} {ops : List Op} {pre mid post : List Entry} {a b : Entry}
    (hfresh : Fresh l0) (hops : ∀ o ∈ ops, IsLookup o)
    (hl0 : l0 = pre ++ a :: (mid ++ b :: post)) (hk : a.key = b.key) :
    ∃ pre' mid' post' a' b', run l0 ops = pre' ++ a' :: (mid' ++ b' :: post') ∧
      a'.ref = a.ref ∧ b'.ref = b.ref ∧ a'.key = b'.key := by
  obtain ⟨a', b', h, ha, hb, hk'⟩ :=
    run_keyBefore (fresh_inv hfresh) hops ⟨a, b, pair_sublist_iff.2 ⟨pre, mid, post, hl0⟩, rfl, rfl, hk⟩
  obtain ⟨pre', mid', post', h⟩ := pair_sublist_iff.1 h
  exact ⟨pre', mid', post', a', b', h, ha, hb, hk'⟩

def ex0 : List Entry :=
  [⟨0, "a", 7, none⟩, ⟨1, "b", 7, none⟩, ⟨2, "c", 9, none⟩]

example : ((lookup ex0 (some 1) (fun k => k == 7)).2.map (·.1.id)) = some "a" := by decide +kernel

example :
    ((lookup (run ex0 [.lookup (some 1) [7], .lookup (some 2) [9]]) (some 3) (fun k => k == 7)).2.map
      (·.1.id)) = some "a" := by decide +kernel

example :
    (run ex0 [.lookup (some 1) [7], .lookup (some 2) [9], .lookup (some 3) [7], .lookup none [7]]).map
      (fun e => (e.id, e.lastIP)) = [("a", none), ("c", some 2), ("b", none)] := by decide +kernel

/-- a bare `.mark` of the shadowed ref (excluded by `OnlyLookups`) does break "first wins":
    afterwards ip 5 is served "b". -/
example :
    ((lookup (run ex0 [.mark 1 (some 5)]) (some 5) (fun k => k == 7)).2.map (·.1.id)) = some "b" := by
  decide +kernel

end OutlineModel.CipherList

#print axioms OutlineModel.CipherList.fresh_inv
#print axioms OutlineModel.CipherList.lookup_not_shadowed
#print axioms OutlineModel.CipherList.markUsed_preserves_inv
#print axioms OutlineModel.CipherList.lookup_preserves_inv
#print axioms OutlineModel.CipherList.run_preserves_inv
#print axioms OutlineModel.CipherList.first_configured_wins
#print axioms OutlineModel.CipherList.key_order_preserved
