import OutlineModel.Model.TCP
namespace OutlineModel.TCP
open OutlineModel OutlineModel.Auth OutlineModel.CipherList OutlineModel.Socks

theorem relayUp_data (ds : List (List UInt8)) : relayUp (ds.map Chunk.data) = (ds.flatten, false) := by
  induction ds with
  | nil => rfl
  | cons d ds ih => simp [relayUp, ih]

variable (c : Cfg)

theorem readAddress_consumed_le (chunks : List Chunk) (acc : List UInt8) (consumed alen : Nat) (plain : List UInt8)
    (rest : List Chunk) (cons' : Nat) (h : readAddress c acc consumed chunks = .found alen plain rest cons') :
    cons' ≤ consumed + (chunks.map (chunkWire c)).sum := by
  induction chunks generalizing acc consumed with
  | nil =>
    unfold readAddress at h
    split at h <;> simp at h
    omega
  | cons ch chs ih =>
    unfold readAddress at h
    split at h
    · simp at h; omega
    · simp at h
    · split at h
      · have := ih _ _ h
        simp only [List.map_cons, List.sum_cons]; omega
      · simp at h

/-- the four disjuncts: refused by the authenticator; authenticated but no readable address; address read but nothing
    dialled (no destination, connection refused, or forbidden by the policy); relayed -/
theorem handle_cases (st : AuthState) (s : Script) (valid : Nat → Bool) (srvSalt : Entry → Bool) (hash : Entry → UInt32)
    (greeting : Nat → List UInt8) :
    let r := (authenticate st (some 1) (decide (s.raw ≥ c.bytesForKeyFinding)) valid srvSalt hash).2
    let effs := (handle c st s valid srvSalt hash greeting).2
    let late := match s.clientEnd with | .fin => "fin@after-client-fin" | .idle => "fin-after-client-fin"
    (r.status ≠ .ok ∧ effs =
        [.search (r.status != .errCipher),
         .probe r.status.toString (match s.clientEnd with | .fin => "eof" | .idle => "timeout") s.raw,
         .closed r.status.toString s.raw 0 0 false,
         .closeClass (match s.clientEnd with | .fin => "fin@after-client-fin" | .idle => "fin@deadline")]) ∨
    (r.status = .ok ∧ effs = [.search true, .auth r.id, .closed "ERR_READ_ADDRESS" s.raw 0 0 false, .closeClass late]) ∨
    (r.status = .ok ∧ ∃ consumed status, consumed ≤ c.saltSize + (s.chunks.map (chunkWire c)).sum ∧
        (status = "ERR_CONNECT" ∨ status = "ERR_ADDRESS_INVALID" ∨ status = "ERR_ADDRESS_PRIVATE" ∨ status = "OK") ∧
        effs = [.search true, .auth r.id, .closed status (max consumed c.bytesForKeyFinding) 0 0 false, .closeClass "quick"]) ∨
    (r.status = .ok ∧ ∃ up reply status sf, (status = "OK" ∨ status = "ERR_RELAY_CLIENT") ∧
        effs = [.search true, .auth r.id, .dial, .toTarget up true] ++ (if reply.isEmpty then [] else [.toClient reply]) ++
          [.closed status s.raw up.length reply.length (!reply.isEmpty), .closeClass late, .serverFin sf]) := by
  unfold handle
  dsimp only
  generalize authenticate st (some 1) (decide (s.raw ≥ c.bytesForKeyFinding)) valid srvSalt hash = a
  obtain ⟨st', status, id, entry⟩ := a
  cases status
  case ok =>
    cases hr : readAddress c [] c.saltSize s.chunks with
    | failed => exact .inr (.inl ⟨rfl, rfl⟩)
    | found alen plain rest consumed =>
      have hle := readAddress_consumed_le c _ _ _ _ _ _ _ hr
      cases hd : s.dial with
      | none | refused => exact .inr (.inr (.inl ⟨rfl, _, _, hle, .inl rfl, rfl⟩))
      | forbidden ip =>
        refine .inr (.inr (.inl ⟨rfl, _, statusOfVerdict (c.validate ip), hle, ?_, rfl⟩))
        cases c.validate ip <;> simp [statusOfVerdict]
      | ok port =>
        refine .inr (.inr (.inr ⟨rfl, _, _, _, _, ?_, rfl⟩))
        cases (relayUp rest).2 <;> simp
  all_goals exact .inl ⟨by simp, rfl⟩

end OutlineModel.TCP
