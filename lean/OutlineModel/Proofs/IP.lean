import OutlineModel.Model.IP
import OutlineModel.Gen.PrivateNets
/- The bit tests of Go's `net.IP` class predicates and of the generated table of private networks, read as numeric
   ranges on the bytes.  A fact about one byte under a mask is decided by kernel evaluation over the 256 values
   (`forall_byte`); an IPv4-mapped address gets the verdict of the 4-byte address it embeds (`requirePublicIP_mapped`). -/
namespace OutlineModel.IP

/-- special-purpose IPv4 blocks named by C05: loopback 127/8, unspecified 0.0.0.0,
    link-local 169.254/16, multicast 224/4, broadcast 255.255.255.255, RFC 1918 (10/8, 172.16/12,
    192.168/16) and CGNAT 100.64/10 — as numeric ranges on the four octets. -/
def Forbidden4 (a b c d : Nat) : Prop :=
  a = 127 ∨ (a = 0 ∧ b = 0 ∧ c = 0 ∧ d = 0) ∨ (a = 169 ∧ b = 254) ∨ (224 ≤ a ∧ a ≤ 239) ∨
  (a = 255 ∧ b = 255 ∧ c = 255 ∧ d = 255) ∨
  a = 10 ∨ (a = 172 ∧ 16 ≤ b ∧ b ≤ 31) ∨ (a = 192 ∧ b = 168) ∨ (a = 100 ∧ 64 ≤ b ∧ b ≤ 127)

/-- special-purpose IPv6 blocks named by C05, for an address that is not IPv4-mapped:
    unspecified ::, loopback ::1, multicast ff00::/8, link-local fe80::/10, unique-local fc00::/7. -/
def Forbidden6 (b0 b1 : Nat) (rest : List Nat) : Prop :=
  (b0 = 0 ∧ b1 = 0 ∧ rest = [0,0,0,0,0,0,0,0,0,0,0,0,0,0]) ∨ (b0 = 0 ∧ b1 = 0 ∧ rest = [0,0,0,0,0,0,0,0,0,0,0,0,0,1]) ∨
  b0 = 255 ∨ (b0 = 254 ∧ 128 ≤ b1 ∧ b1 ≤ 191) ∨ (252 ≤ b0 ∧ b0 ≤ 253)

theorem forall_byte {p : UInt8 → Prop} [DecidablePred p] (h : (List.range 256).all (fun n => p (UInt8.ofNat n)) = true) :
    ∀ x, p x := fun x => by
  simpa using List.all_eq_true.mp h x.toNat (List.mem_range.mpr x.toNat_lt)

theorem and_255 (x : UInt8) : x &&& 255 = x := UInt8.and_neg_one

theorem and_zero' (x : UInt8) : x &&& 0 = 0 := UInt8.and_zero

/-- the masks of the class tests (224/4, fe80::/10) and of the table of private networks (172.16/12, 100.64/10, fc00::/7) -/
theorem mask_ranges : ∀ x : UInt8,
    (x &&& 240 = 224 ↔ 224 ≤ x.toNat ∧ x.toNat ≤ 239) ∧ (x &&& 192 = 128 ↔ 128 ≤ x.toNat ∧ x.toNat ≤ 191) ∧
    ((16 : UInt8) &&& 240 = x &&& 240 ↔ 16 ≤ x.toNat ∧ x.toNat ≤ 31) ∧
    ((64 : UInt8) &&& 192 = x &&& 192 ↔ 64 ≤ x.toNat ∧ x.toNat ≤ 127) ∧
    ((252 : UInt8) &&& 254 = x &&& 254 ↔ 252 ≤ x.toNat ∧ x.toNat ≤ 253) :=
  forall_byte (by decide +kernel)

/- `no_index`: `simp` indexes a numeral as a literal key, which the pattern `OfNat.ofNat k` with `k` a variable never
   matches; unification then finds `k`. -/
theorem eq_lit (x : UInt8) (k : Nat) : x = (no_index (OfNat.ofNat k) : UInt8) ↔ x.toNat = k % 256 := by
  rw [← UInt8.toNat_inj]
  show x.toNat = (UInt8.ofNat k).toNat ↔ _
  rw [UInt8.toNat_ofNat']

theorem lit_eq (x : UInt8) (k : Nat) : (no_index (OfNat.ofNat k) : UInt8) = x ↔ x.toNat = k % 256 := by
  rw [eq_comm, eq_lit]

theorem u8_eq_iff (x : UInt8) (k : Nat) (hk : k < 256) : x = UInt8.ofNat k ↔ x.toNat = k :=
  (eq_lit x k).trans (by rw [Nat.mod_eq_of_lt hk])

theorem requirePublicIP_ok_iff (nets) (ip : IP) :
    requirePublicIP nets ip = .ok ↔ (isGlobalUnicast ip = true ∧ ¬ isPrivate nets ip = true) := by
  unfold requirePublicIP
  cases isGlobalUnicast ip <;> cases isPrivate nets ip <;> simp

theorem requirePublicIP_priv_iff (nets) (ip : IP) :
    requirePublicIP nets ip = .priv ↔ (isGlobalUnicast ip = true ∧ isPrivate nets ip = true) := by
  unfold requirePublicIP
  cases isGlobalUnicast ip <;> cases isPrivate nets ip <;> simp

theorem requirePublicIP_invalid_iff (nets) (ip : IP) :
    requirePublicIP nets ip = .invalid ↔ isGlobalUnicast ip = false := by
  unfold requirePublicIP
  cases isGlobalUnicast ip <;> cases isPrivate nets ip <;> simp

theorem requirePublicIP_invalid_of_length (nets) (ip : IP) (h4 : ip.length ≠ 4) (h16 : ip.length ≠ 16) :
    requirePublicIP nets ip = .invalid := by
  rw [requirePublicIP_invalid_iff, isGlobalUnicast]
  simp [h4, h16]

theorem to4_of_length_four {y : IP} (hy : y.length = 4) : to4 y = some y := by
  simp only [to4, hy, BEq.rfl, if_true]

theorem equal_of_length_eq {ip x : IP} (h : ip.length = x.length) : equal ip x = (ip == x) := by
  simp only [equal, h, BEq.rfl, if_true]

private theorem prefix_length : v4InV6Prefix.length = 12 := rfl

theorem to4_mapped {y : IP} (hy : y.length = 4) : to4 (v4InV6Prefix ++ y) = some y := by
  simp only [to4, List.length_append, hy]
  -- both length tests, the four tests on the first twelve bytes and `drop 12` look at the cells of the prefix only
  rfl

theorem equal_mapped {y x : IP} (hy : y.length = 4) (hx : x.length = 16) :
    equal (v4InV6Prefix ++ y) x = equal y x := by
  simp only [equal, List.length_append, prefix_length, hy, hx, Nat.reduceAdd, BEq.rfl, if_true, Nat.reduceBEq,
    Bool.false_eq_true, if_false, Bool.true_and, Bool.and_self]
  rw [Bool.eq_iff_iff]
  simp only [Bool.and_eq_true, beq_iff_eq]
  constructor
  · intro h; subst h; exact ⟨List.take_left' prefix_length, (List.drop_left' prefix_length).symm⟩
  · rintro ⟨h1, h2⟩; rw [← h1, h2, List.take_append_drop]

theorem equal_ipv4_of_to4_none {ip : IP} (h : to4 ip = none) (p q r s : UInt8) : equal ip (ipv4 p q r s) = false := by
  have hl : (ipv4 p q r s).length = 16 := rfl
  by_cases h16 : ip.length = 16
  · rw [equal_of_length_eq (h16.trans hl.symm)]
    apply Bool.eq_false_iff.mpr
    intro he
    rw [eq_of_beq he] at h
    exact absurd (h.symm.trans (to4_mapped (y := [p, q, r, s]) rfl)) nofun
  · have h4 : ip.length ≠ 4 := fun h4 => absurd (h.symm.trans (to4_of_length_four h4)) nofun
    simp [equal, hl, h16, h4]

theorem equal_v4_ipv4 (a b c d p q r s : UInt8) : equal [a,b,c,d] (ipv4 p q r s) = ([a,b,c,d] == [p,q,r,s]) := rfl

theorem equal_v4_unspecified6 (a b c d : UInt8) : equal [a,b,c,d] ipv6unspecified = false := rfl

-- on literal bytes, after rewriting with this and `isPrivate_v4`, `simp` finishes (`UInt8.reduceToNat`); with range
-- hypotheses `simp at *; omega`; for `= false` go through `← Bool.not_eq_true`
theorem isGlobalUnicast_v4 (a b c d : UInt8) : isGlobalUnicast [a,b,c,d] = true ↔
    ¬ (a.toNat = 127 ∨ (a.toNat = 0 ∧ b.toNat = 0 ∧ c.toNat = 0 ∧ d.toNat = 0) ∨ (a.toNat = 169 ∧ b.toNat = 254) ∨
       (224 ≤ a.toNat ∧ a.toNat ≤ 239) ∨ (a.toNat = 255 ∧ b.toNat = 255 ∧ c.toNat = 255 ∧ d.toNat = 255)) := by
  have h4 : to4 [a,b,c,d] = some [a,b,c,d] := to4_of_length_four rfl
  simp only [isGlobalUnicast, isUnspecified, isLoopback, isMulticast, isLinkLocalUnicast, h4, ipv4bcast, ipv4zero,
    equal_v4_ipv4, equal_v4_unspecified6, List.length_cons, List.length_nil, Nat.reduceAdd, BEq.rfl, Bool.true_or, Bool.true_and,
    Bool.or_false, List.getD_cons_zero, List.getD_cons_succ, Bool.and_eq_true, Bool.not_eq_true', ← Bool.not_eq_true, beq_iff_eq,
    List.cons.injEq, and_true, mask_ranges, and_assoc, not_or]
  simp only [eq_lit, Nat.reduceMod]
  -- the conjuncts in the order of the tests of `isGlobalUnicast`, then in the order of the statement
  exact ⟨fun ⟨e, b, a, d, c⟩ => ⟨a, b, c, d, e⟩, fun ⟨a, b, c, d, e⟩ => ⟨e, b, a, d, c⟩⟩

theorem contains_v4 (n0 n1 n2 n3 m0 m1 m2 m3 a b c d : UInt8) :
    contains ([n0,n1,n2,n3], [m0,m1,m2,m3]) [a,b,c,d] =
      (n0 &&& m0 == a &&& m0 && (n1 &&& m1 == b &&& m1 && (n2 &&& m2 == c &&& m2 && n3 &&& m3 == d &&& m3))) := by
  simp [contains, to4_of_length_four]

theorem contains_v4_of_length_ne {nn m : List UInt8} (a b c d : UInt8) (h : nn.length ≠ 4) :
    contains (nn, m) [a,b,c,d] = false := by
  simp [contains, to4_of_length_four, Ne.symm h]

theorem isPrivate_v4 (a b c d : UInt8) : isPrivate Gen.privateNets [a,b,c,d] = true ↔
    (a.toNat = 10 ∨ (a.toNat = 172 ∧ 16 ≤ b.toNat ∧ b.toNat ≤ 31) ∨ (a.toNat = 192 ∧ b.toNat = 168) ∨
      (a.toNat = 100 ∧ 64 ≤ b.toNat ∧ b.toNat ≤ 127)) := by
  -- as two implications, so that the table is read once and both are left to prove whatever the order of its entries
  rw [iff_def]
  simp only [isPrivate, Gen.privateNets, List.any_cons, List.any_nil, contains_v4, contains_v4_of_length_ne,
    List.length_cons, List.length_nil, Nat.reduceAdd, ne_eq, Nat.reduceEqDiff, not_false_eq_true,
    Bool.or_false, Bool.false_or, Bool.or_eq_true, Bool.and_eq_true, beq_iff_eq, UInt8.and_zero, and_true, and_255,
    mask_ranges]
  simp only [lit_eq, Nat.reduceMod]
  constructor <;> (rintro (h | h | h | h) <;> simp only [h, true_or, or_true, and_self])

theorem isGlobalUnicast_mapped {y : IP} (hy : y.length = 4) : isGlobalUnicast (v4InV6Prefix ++ y) = isGlobalUnicast y := by
  have e1 : equal (v4InV6Prefix ++ y) ipv4bcast = equal y ipv4bcast := equal_mapped hy rfl
  have e2 : equal (v4InV6Prefix ++ y) ipv4zero = equal y ipv4zero := equal_mapped hy rfl
  have e3 : equal (v4InV6Prefix ++ y) ipv6unspecified = equal y ipv6unspecified := equal_mapped hy rfl
  simp only [isGlobalUnicast, isUnspecified, isLoopback, isMulticast, isLinkLocalUnicast, to4_mapped hy, to4_of_length_four hy,
    e1, e2, e3, List.length_append, prefix_length, hy, Nat.reduceAdd, BEq.rfl, Bool.or_true, Bool.true_or]

theorem contains_mapped {y : IP} (hy : y.length = 4) (n) : contains n (v4InV6Prefix ++ y) = contains n y := by
  simp only [contains, to4_mapped hy, to4_of_length_four hy]

-- a 16-byte address written as a literal list is not syntactically `v4InV6Prefix ++ y`: `show` it in that form first
-- (C05.`sixteen_bytes_covered` says a 16-byte address is of that form or has `to4 = none`)
theorem requirePublicIP_mapped (nets) {y : IP} (hy : y.length = 4) :
    requirePublicIP nets (v4InV6Prefix ++ y) = requirePublicIP nets y := by
  unfold requirePublicIP isPrivate
  simp only [isGlobalUnicast_mapped hy, contains_mapped hy]

theorem isGlobalUnicast_v6 {b0 b1 : UInt8} {rest : IP} (hl : rest.length = 14) (h : to4 (b0 :: b1 :: rest) = none) :
    isGlobalUnicast (b0 :: b1 :: rest) = true ↔
    ¬ ((b0.toNat = 0 ∧ b1.toNat = 0 ∧ rest = List.replicate 14 0) ∨
       (b0.toNat = 0 ∧ b1.toNat = 0 ∧ rest = List.replicate 13 0 ++ [1]) ∨
       b0.toNat = 255 ∨ (b0.toNat = 254 ∧ 128 ≤ b1.toNat ∧ b1.toNat ≤ 191)) := by
  have h16 : (b0 :: b1 :: rest).length = 16 := by simp only [List.length_cons, hl]
  have e1 : equal (b0 :: b1 :: rest) ipv6unspecified = _ := equal_of_length_eq h16
  have e2 : equal (b0 :: b1 :: rest) ipv6loopback = _ := equal_of_length_eq h16
  simp only [isGlobalUnicast, isUnspecified, isLoopback, isMulticast, isLinkLocalUnicast, h, ipv4bcast, ipv4zero,
    equal_ipv4_of_to4_none h, e1, e2, h16]
  simp only [ipv6unspecified, ipv6loopback, List.replicate_succ, List.cons_append,
    BEq.rfl, Bool.or_true, Bool.true_and, Bool.false_or, Bool.not_false,
    List.getD_cons_zero, List.getD_cons_succ, Bool.and_eq_true, Bool.not_eq_true', ← Bool.not_eq_true, beq_iff_eq,
    List.cons.injEq, mask_ranges, and_assoc, not_or]
  simp only [eq_lit, Nat.reduceMod]

theorem isPrivate_v6 {b0 b1 b2 b3 b4 b5 b6 b7 b8 b9 b10 b11 b12 b13 b14 b15 : UInt8}
    (h : to4 [b0,b1,b2,b3,b4,b5,b6,b7,b8,b9,b10,b11,b12,b13,b14,b15] = none) :
    isPrivate Gen.privateNets [b0,b1,b2,b3,b4,b5,b6,b7,b8,b9,b10,b11,b12,b13,b14,b15] = true ↔
      252 ≤ b0.toNat ∧ b0.toNat ≤ 253 := by
  -- the four IPv4 networks fail the length test; `fc00::/7` compares byte 0 under 254 and the other fifteen under 0
  simp only [isPrivate, Gen.privateNets, List.any_cons, List.any_nil, contains, h, List.length_cons, List.length_nil,
    Nat.reduceAdd, Nat.reduceBNe, if_true, if_false, Bool.false_eq_true, List.zip_cons_cons, List.zip_nil_right,
    List.all_cons, List.all_nil, UInt8.and_zero, BEq.rfl, Bool.and_true, Bool.false_or, Bool.or_false, beq_iff_eq, mask_ranges]

end OutlineModel.IP
