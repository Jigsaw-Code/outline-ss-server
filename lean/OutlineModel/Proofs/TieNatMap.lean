import OutlineModel.Proofs.GoRT
import OutlineModel.Gen.Code
/-
Tie for the translated NAT table of the packet handler (`natmap.Get / set / del / Close`, service/udp.go): the table is a
finite map from the client address string to its association — a lookup sees the last `set` for that key that no `del`
followed, `del` removes exactly its key and returns what was there, nothing touches another key, and `Close` leaves the
table as it is.  (The lock is not part of the translation: every method touches `keyConn` inside one critical section —
generated lock facts, C19.)
-/
namespace OutlineModel.Tie.NatMap
open OutlineModel OutlineModel.GoRT
open OutlineModel.Gen

variable {K V : Type} [DecidableEq K]

theorem get?_insert (m : GoMap K V) (k k' : K) (v : V) :
    (m.insert k v).get? k' = if k' = k then some v else m.get? k' :=
  GoMap.get?_insert m k k' v

theorem get?_erase (m : GoMap K V) (k k' : K) :
    (m.erase k).get? k' = if k' = k then none else m.get? k' :=
  GoMap.get?_erase m k k'

def entryOf (timeout : Int) (pc : Opaque "net.PacketConn") (ck : Opaque "shadowsocks.EncryptionKey")
    (cm : Opaque "service.UDPConnMetrics") : Code.natconn :=
  { Code.natconn.zero with PacketConn := pc, cryptoKey := ck, metrics := cm, defaultTimeout := timeout }

theorem get_tie (m : Code.natmap) (k : String) : Code.natmap.Get m k = some (m, m.keyConn.get? k) := by
  unfold Code.natmap.Get
  -- (`hc`: written with a temporary, `e := m.keyConn[key]; return e`, the translation carries the nil flag `!contains`)
  have hc := GoMap.contains_eq_isSome_get? m.keyConn k
  cases hg : m.keyConn.get? k <;> simp_all

theorem set_tie (m : Code.natmap) (k : String) (pc : Opaque "net.PacketConn") (ck : Opaque "shadowsocks.EncryptionKey")
    (cm : Opaque "service.UDPConnMetrics") :
    Code.natmap.set m k pc ck cm =
      some ({ m with keyConn := m.keyConn.insert k (entryOf m.timeout pc ck cm) }, some (entryOf m.timeout pc ck cm)) := by
  simp [Code.natmap.set, entryOf]

/-- one equation for both branches of `if ok`: for an absent key `delete` would leave the table as it is
    (`GoMap.erase_absent`) -/
theorem del_eq (m : Code.natmap) (k : String) :
    Code.natmap.del m k = some ({ m with keyConn := m.keyConn.erase k }, m.keyConn.get? k) := by
  unfold Code.natmap.del
  have hc := GoMap.contains_eq_isSome_get? m.keyConn k
  cases hg : m.keyConn.get? k with
  | none => have := GoMap.erase_absent m.keyConn k hg; simp_all
  | some e => simp_all  -- left with `False` here: the entry returned is not the one the table held

theorem del_tie (m : Code.natmap) (k : String) :
    Code.natmap.del m k = some ({ m with keyConn := m.keyConn.erase k }, m.keyConn.get? k) ∨
    (m.keyConn.get? k = none ∧ Code.natmap.del m k = some (m, none)) :=
  .inl (del_eq m k)

theorem close_tie (setDeadline : Code.natconn → Int → Option String) (now : Int) (m : Code.natmap) :
    ∃ err, Code.natmap.Close setDeadline now m = some (m, err) := by
  unfold Code.natmap.Close
  -- every iteration yields, so the loop is a fold over the keys: it ends, and only the error is threaded through
  simp only [bind_pure_comp, ← apply_ite (pure : _ → Option _), ← apply_ite ForInStep.yield, List.forIn_pure_yield_eq_foldl]
  exact ⟨_, rfl⟩

end OutlineModel.Tie.NatMap
