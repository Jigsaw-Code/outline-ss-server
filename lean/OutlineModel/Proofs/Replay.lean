import OutlineModel.Model.Replay
/- For C07 (service/replay.go).  A hash that has been checked stays remembered through the next N − 1 checked handshakes
   (`Safe` is the invariant), so among at most N handshakes exactly one presentation of it wins (`winners_eq_one`). -/
namespace OutlineModel.Replay

def RC.mem (c : RC) (h : UInt32) : Prop := h ∈ c.active ∨ h ∈ c.archive

/-- "`h` survives the next `k` checked handshakes while every capacity in effect is ≥ N":
    either `h` is in the active set and fewer than `N` adds remain, or it is in the archive and
    the active set plus the remaining adds stay below `N` (so no second rotation can happen). -/
def Safe (N : Nat) (h : UInt32) (c : RC) (k : Nat) : Prop :=
  (N : Int) ≤ c.cap ∧ ((h ∈ c.active ∧ k < N) ∨ (h ∈ c.archive ∧ c.active.length + k < N))

theorem add_snd (c : RC) (h : UInt32) : (c.add h).2 = false ↔ c.cap ≠ 0 ∧ c.mem h := by
  unfold RC.add RC.mem
  by_cases hc : c.cap = 0
  · simp [hc]
  · by_cases hin : h ∈ c.active
    · simp [hc, hin]
    · by_cases hfull : (c.active.length : Int) ≥ c.cap <;> simp [hc, hin, hfull]

theorem mem_of_add_false (c : RC) (h : UInt32) (hf : (c.add h).2 = false) : c.cap ≠ 0 ∧ c.mem h :=
  (add_snd c h).1 hf

theorem add_true_of_fresh (c : RC) (h : UInt32) (hf : ¬ c.mem h) : (c.add h).2 = true :=
  Bool.of_not_eq_false fun hb => hf ((add_snd c h).1 hb).2

theorem add_fst (c : RC) (h : UInt32) :
    ((c.cap = 0 ∨ h ∈ c.active) ∧ (c.add h).1 = c) ∨
    (c.cap ≠ 0 ∧ h ∉ c.active ∧ c.cap ≤ c.active.length ∧ (c.add h).1 = { c with archive := c.active, active := [h] }) ∨
    (c.cap ≠ 0 ∧ h ∉ c.active ∧ (c.active.length : Int) < c.cap ∧ (c.add h).1 = { c with active := h :: c.active }) := by
  unfold RC.add
  by_cases hc : c.cap = 0
  · simp [hc]
  · by_cases hin : h ∈ c.active
    · simp [hc, hin]
    · by_cases hfull : (c.active.length : Int) ≥ c.cap
      · simp [hc, hin, hfull]
      · simp [hc, hin, hfull]; omega

theorem add_cap (c : RC) (x : UInt32) : (c.add x).1.cap = c.cap := by
  rcases add_fst c x with ⟨_, e⟩ | ⟨_, _, _, e⟩ | ⟨_, _, _, e⟩ <;> rw [e]

theorem add_mem_active (c : RC) (h : UInt32) (hc : c.cap ≠ 0) : h ∈ (c.add h).1.active := by
  rcases add_fst c h with ⟨h0, e⟩ | ⟨_, _, _, e⟩ | ⟨_, _, _, e⟩ <;> rw [e]
  · exact h0.resolve_left hc
  · exact List.mem_singleton_self h
  · exact List.mem_cons_self

theorem mem_add (c : RC) (x h : UInt32) (hm : (c.add x).1.mem h) : h = x ∨ c.mem h := by
  unfold RC.mem at *
  rcases add_fst c x with ⟨_, e⟩ | ⟨_, _, _, e⟩ | ⟨_, _, _, e⟩ <;> rw [e] at hm
  · exact .inr hm
  · rcases hm with hm | hm
    · exact .inl (List.mem_singleton.1 hm)
    · exact .inr (.inl hm)
  · rcases hm with hm | hm
    · exact (List.mem_cons.1 hm).imp_right .inl
    · exact .inr (.inr hm)

theorem Safe.add {N : Nat} {h : UInt32} {c : RC} {k : Nat} (hs : Safe N h c (k + 1)) (x : UInt32) :
    Safe N h (c.add x).1 k := by
  obtain ⟨hcap, hst⟩ := hs
  refine ⟨by rwa [add_cap], ?_⟩
  rcases add_fst c x with ⟨_, e⟩ | ⟨_, _, hfull, e⟩ | ⟨_, _, _, e⟩ <;> simp only [e]
  · exact hst.imp (.imp_right (by omega)) (.imp_right (by omega))
  · -- rotation: `h` was active (had it been archived, the full active set would have used up the budget)
    rcases hst with ⟨h1, h2⟩ | ⟨_, h2⟩
    · exact .inr ⟨h1, by simp only [List.length_singleton]; omega⟩
    · omega
  · exact hst.imp (.imp (List.mem_cons_of_mem _) (by omega)) (.imp_right (by simp only [List.length_cons]; omega))

theorem Safe.of_add {N : Nat} (c : RC) (h : UInt32) {k : Nat} (hcap : (N : Int) ≤ c.cap) (hk : k < N) :
    Safe N h (c.add h).1 k :=
  ⟨by rwa [add_cap], Or.inl ⟨add_mem_active c h (by omega), hk⟩⟩

theorem Safe.resize {N M : Nat} {h : UInt32} {c : RC} {k : Nat} (hs : Safe N h c k) (n : Int) (hn : (N : Int) ≤ n) :
    Safe N h (c.resize M n).1 k := by
  unfold RC.resize
  split
  · exact hs
  · exact ⟨hn, hs.2⟩

theorem Safe.refused {N : Nat} {h : UInt32} {c : RC} {k : Nat} (hs : Safe N h c k) : (c.add h).2 = false := by
  obtain ⟨hcap, hst⟩ := hs
  exact (add_snd c h).2 ⟨by rcases hst with ⟨_, h2⟩ | ⟨_, h2⟩ <;> omega, hst.imp And.left And.left⟩

theorem Safe.mono {N : Nat} {h : UInt32} {c : RC} {k k' : Nat} (hs : Safe N h c k) (hk : k' ≤ k) : Safe N h c k' :=
  ⟨hs.1, hs.2.imp (.imp_right (by omega)) (.imp_right (by omega))⟩

def capsGE (N : Nat) : List Op → Prop
  | [] => True
  | .add _ :: os => capsGE N os
  | .resize n :: os => (N : Int) ≤ n ∧ capsGE N os

def numAdds : List Op → Nat
  | [] => 0
  | .add _ :: os => numAdds os + 1
  | .resize _ :: os => numAdds os

theorem Safe.run {N M : Nat} {h : UInt32} (ops : List Op) (c : RC)
    (hs : Safe N h c (numAdds ops)) (hcaps : capsGE N ops) : Safe N h (run M c ops) 0 := by
  induction ops generalizing c with
  | nil => exact hs
  | cons o os ih =>
    cases o with
    | add x => exact ih _ (Safe.add (k := numAdds os) hs x) hcaps
    | resize n => exact ih _ (hs.resize n hcaps.1) hcaps.2

def winners (M : Nat) (h : UInt32) (c : RC) : List Op → Nat
  | [] => 0
  | .add x :: os => (if x = h ∧ (c.add x).2 = true then 1 else 0) + winners M h (c.add x).1 os
  | .resize n :: os => winners M h (c.resize M n).1 os

def presentations (h : UInt32) : List Op → Nat
  | [] => 0
  | .add x :: os => (if x = h then 1 else 0) + presentations h os
  | .resize _ :: os => presentations h os

theorem winners_zero_of_safe {N M : Nat} {h : UInt32} (ops : List Op) (c : RC)
    (hs : Safe N h c (numAdds ops)) (hcaps : capsGE N ops) : winners M h c ops = 0 := by
  induction ops generalizing c with
  | nil => rfl
  | cons o os ih =>
    cases o with
    | add x =>
      rw [winners, ih _ (Safe.add (k := numAdds os) hs x) hcaps, Nat.add_zero, if_neg]
      rintro ⟨rfl, hx⟩
      rw [hs.refused] at hx
      cases hx
    | resize n => exact ih _ (hs.resize n hcaps.1) hcaps.2

theorem resize_mem (M : Nat) (c : RC) (n : Int) (h : UInt32) : (c.resize M n).1.mem h ↔ c.mem h := by
  unfold RC.resize
  split <;> exact Iff.rfl

theorem resize_cap_ge {N M : Nat} (c : RC) (n : Int) (hc : (N : Int) ≤ c.cap) (hn : (N : Int) ≤ n) :
    (N : Int) ≤ (c.resize M n).1.cap := by
  unfold RC.resize
  split
  · exact hc
  · exact hn

theorem winners_eq_one {N M : Nat} {h : UInt32} (ops : List Op) (c : RC)
    (hcap : (N : Int) ≤ c.cap) (hf : ¬ c.mem h) (hcaps : capsGE N ops) (hnum : numAdds ops ≤ N)
    (hp : 0 < presentations h ops) : winners M h c ops = 1 := by
  induction ops generalizing c with
  | nil => simp [presentations] at hp
  | cons o os ih =>
    cases o with
    | resize n => exact ih _ (resize_cap_ge c n hcap hcaps.1) (by rw [resize_mem]; exact hf) hcaps.2 hnum hp
    | add x =>
      simp only [winners]
      simp only [numAdds] at hnum
      by_cases hx : x = h
      · subst hx
        rw [winners_zero_of_safe os _ (Safe.of_add c x hcap (by omega)) hcaps]
        simp [add_true_of_fresh c x hf]
      · have hp' : 0 < presentations h os := by simpa [presentations, hx] using hp
        rw [ih _ (by rwa [add_cap]) (fun hm => (mem_add c x h hm).elim (fun e => hx e.symm) hf) hcaps (by omega) hp']
        simp [hx]

end OutlineModel.Replay
