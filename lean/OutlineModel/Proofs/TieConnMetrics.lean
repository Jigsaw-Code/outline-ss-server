import OutlineModel.Proofs.GoRT
import OutlineModel.Gen.Code
/-
The translated per-connection metric objects of prometheus/metrics.go (tcpConnMetrics.AddAuthenticated / AddClosed,
udpConnMetrics.RemoveNatEntry): which calls they make on the tunnel-time collector.  The collectors they call are shared
objects: their calls appear in the effect log of the connection object, with flattened arguments.  `toIPKey` is a
parameter (any function).
-/
namespace OutlineModel.Tie.ConnMetrics
open OutlineModel OutlineModel.GoRT
open OutlineModel.Gen

def keyAtoms (k : Code.IPKey) : List Atom := [Atom.tok k.ip.val] ++ [Atom.str k.accessKey]

def startEff (k : Code.IPKey) : Eff := { name := "tunnelTimeMetrics.startConnection", args := [], vals := [keyAtoms k] }
def stopEff (k : Code.IPKey) : Eff := { name := "tunnelTimeMetrics.stopConnection", args := [], vals := [keyAtoms k] }

def isTT (n : String) : Bool := n == "tunnelTimeMetrics.startConnection" || n == "tunnelTimeMetrics.stopConnection"
def ttCalls (es : List Eff) : List Eff := es.filter (fun e => isTT e.name)

variable (toIPKey : Opaque "net.Addr" → String → Code.IPKey × Option String)

/-- **AddAuthenticated**: never panics; records the key and that the connection authenticated; starts a tunnel for
    (client IP, key) exactly when the client address yields an IP key -/
theorem addAuthenticated_eq (cm : Code.tcpConnMetrics) (key : String) :
    Code.tcpConnMetrics.AddAuthenticated toIPKey cm key =
      some { cm with accessKey := key, authenticated := true,
                     eff := cm.eff ++ (if (toIPKey cm.clientAddr key).2 = none then [startEff (toIPKey cm.clientAddr key).1] else []) } := by
  unfold Code.tcpConnMetrics.AddAuthenticated
  by_cases h : (toIPKey cm.clientAddr key).2 = none <;> simp [h, startEff, keyAtoms]

theorem isTT_names :
    isTT "tunnelTimeMetrics.startConnection" = true ∧ isTT "tunnelTimeMetrics.stopConnection" = true ∧
    isTT "tcpServiceMetrics.proxyCollector.addClientTarget" = false ∧
    isTT "tcpServiceMetrics.proxyCollector.addTargetClient" = false ∧
    isTT "tcpServiceMetrics.closeConnection" = false ∧ isTT "udpServiceMetrics.removeNatEntry" = false := by
  decide +kernel

theorem ite_ite_some {α} (c1 c2 : Prop) [Decidable c1] [Decidable c2] (a b : α) :
    (if c1 then (if c2 then some a else some b) else some b) = some (if c1 ∧ c2 then a else b) := by
  by_cases h1 : c1 <;> by_cases h2 : c2 <;> simp [h1, h2]

/-- **AddClosed**: never panics; among its calls, the only one on the tunnel-time collector is a stop, made exactly when
    the connection had authenticated (the flag, not the key id — an empty id counts) and the client address yields an IP
    key, with the key recorded at authentication; flag, key and address are left as they were -/
theorem addClosed_tt (cm : Code.tcpConnMetrics) (status : String) (data : Code.ProxyMetrics) (d : Int) :
    ∃ cm', Code.tcpConnMetrics.AddClosed toIPKey cm status data d = some cm' ∧
      ttCalls cm'.eff = ttCalls cm.eff ++
        (if cm.authenticated = true ∧ (toIPKey cm.clientAddr cm.accessKey).2 = none
         then [stopEff (toIPKey cm.clientAddr cm.accessKey).1] else []) ∧
      cm'.authenticated = cm.authenticated ∧ cm'.accessKey = cm.accessKey ∧ cm'.clientAddr = cm.clientAddr := by
  unfold Code.tcpConnMetrics.AddClosed
  simp only [pure, decide_eq_true_eq]
  rw [ite_ite_some]
  refine ⟨_, rfl, ?_⟩
  by_cases hc : cm.authenticated = true ∧ (toIPKey cm.clientAddr cm.accessKey).2 = none
  · rw [if_pos hc, if_pos hc]
    exact ⟨by simp [ttCalls, isTT_names, stopEff, keyAtoms], rfl, rfl, rfl⟩
  · rw [if_neg hc, if_neg hc]
    exact ⟨by simp [ttCalls, isTT_names], rfl, rfl, rfl⟩

/-- **udpConnMetrics.RemoveNatEntry**: reports the removal and stops the association's tunnel when the client address
    yields an IP key -/
theorem removeNatEntry_tt (cm : Code.udpConnMetrics) :
    ∃ cm', Code.udpConnMetrics.RemoveNatEntry toIPKey cm = some cm' ∧
      ttCalls cm'.eff = ttCalls cm.eff ++
        (if (toIPKey cm.clientAddr cm.accessKey).2 = none then [stopEff (toIPKey cm.clientAddr cm.accessKey).1] else []) := by
  unfold Code.udpConnMetrics.RemoveNatEntry
  simp only [pure, decide_eq_true_eq, ← apply_ite some]
  refine ⟨_, rfl, ?_⟩
  split
  · simp [ttCalls, isTT_names, stopEff, keyAtoms]
  · simp [ttCalls, isTT_names]

/-- **a connection's tunnel is started and stopped in a pair**: AddAuthenticated(key) followed by AddClosed makes, on the
    tunnel-time collector, exactly a start and a stop of the same (client IP, key) when the address yields an IP key
    and nothing otherwise — for every key id, the empty one included -/
theorem auth_then_close_pairs (cm : Code.tcpConnMetrics) (key status : String) (data : Code.ProxyMetrics) (d : Int) :
    ∃ cm1 cm2, Code.tcpConnMetrics.AddAuthenticated toIPKey cm key = some cm1 ∧
      Code.tcpConnMetrics.AddClosed toIPKey cm1 status data d = some cm2 ∧
      ttCalls cm2.eff = ttCalls cm.eff ++
        (if (toIPKey cm.clientAddr key).2 = none
         then [startEff (toIPKey cm.clientAddr key).1, stopEff (toIPKey cm.clientAddr key).1] else []) := by
  obtain ⟨cm2, h1, h2, _⟩ := addClosed_tt toIPKey
    { cm with accessKey := key, authenticated := true,
              eff := cm.eff ++ (if (toIPKey cm.clientAddr key).2 = none then [startEff (toIPKey cm.clientAddr key).1] else []) }
    status data d
  refine ⟨_, cm2, addAuthenticated_eq toIPKey cm key, h1, ?_⟩
  rw [h2]
  by_cases h : (toIPKey cm.clientAddr key).2 = none <;>
    simp [h, ttCalls, List.filter_append, startEff, isTT_names]

theorem unauthenticated_close_makes_no_tunnel_call (cm : Code.tcpConnMetrics) (status : String) (data : Code.ProxyMetrics) (d : Int)
    (h : cm.authenticated = false) :
    ∃ cm', Code.tcpConnMetrics.AddClosed toIPKey cm status data d = some cm' ∧ ttCalls cm'.eff = ttCalls cm.eff := by
  obtain ⟨cm', h1, h2, _⟩ := addClosed_tt toIPKey cm status data d
  exact ⟨cm', h1, by simpa [h] using h2⟩

end OutlineModel.Tie.ConnMetrics
