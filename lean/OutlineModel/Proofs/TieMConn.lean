import OutlineModel.Proofs.GoRT
import OutlineModel.Gen.Code
import OutlineModel.Model.MConn
/-
Tie between the translated measuredConn (Read, Write, WriteTo, ReadFrom; service/metrics/metrics.go) and the counting
model Model/MConn.lean: every method hands the underlying connection's answer through unchanged and adds exactly the
returned byte count to exactly one of the two counters.  The underlying operations are parameters (any functions).
-/
namespace OutlineModel.Tie.MConn
open OutlineModel OutlineModel.GoRT OutlineModel.MConn
open OutlineModel.Gen

/-- `toNat` loses nothing where the ties use it: they assume a counter ≥ 0 (`h0`) and a non-negative reported count
    (`hn`), which is io.Reader's / io.Writer's contract -/
def abs (c : Code.measuredConn) : St := { rd := c.readCount.toNat, wr := c.writeCount.toNat }

theorem abs_addRead (c : Code.measuredConn) {n : Int} {k : Nat} (h0 : 0 ≤ c.readCount) (hn : n = k) :
    abs { c with readCount := c.readCount + n } = { abs c with rd := (abs c).rd + k } := by
  simp only [abs, hn, Int.toNat_add h0 (Int.natCast_nonneg k), Int.toNat_natCast]

theorem abs_addWrite (c : Code.measuredConn) {n : Int} {k : Nat} (h0 : 0 ≤ c.writeCount) (hn : n = k) :
    abs { c with writeCount := c.writeCount + n } = { abs c with wr := (abs c).wr + k } := by
  simp only [abs, hn, Int.toNat_add h0 (Int.natCast_nonneg k), Int.toNat_natCast]

theorem read_tie (R : Opaque "transport.StreamConn" → List UInt8 → Int × Option String) (c : Code.measuredConn) (b : List UInt8)
    (h0 : 0 ≤ c.readCount) (hn : 0 ≤ (R c.StreamConn b).1) :
    ∃ c', Code.measuredConn.Read R c b = some (c', (R c.StreamConn b).1, (R c.StreamConn b).2) ∧
      abs c' = step (abs c) (.read (R c.StreamConn b).1.toNat) ∧ c'.StreamConn = c.StreamConn :=
  ⟨_, rfl, abs_addRead c h0 (Int.toNat_of_nonneg hn).symm, rfl⟩

theorem write_tie (W : Opaque "transport.StreamConn" → List UInt8 → Int × Option String) (c : Code.measuredConn) (b : List UInt8)
    (h0 : 0 ≤ c.writeCount) (hn : 0 ≤ (W c.StreamConn b).1) :
    ∃ c', Code.measuredConn.Write W c b = some (c', (W c.StreamConn b).1, (W c.StreamConn b).2) ∧
      abs c' = step (abs c) (.write b.length (W c.StreamConn b).1.toNat) ∧ c'.StreamConn = c.StreamConn :=
  ⟨_, rfl, abs_addWrite c h0 (Int.toNat_of_nonneg hn).symm, rfl⟩

/-- WriteTo = io.Copy(w, underlying): the read counter grows by what io.Copy reports (the model's `copied steps`) -/
theorem writeTo_tie (copy : Opaque "io.Writer" → Opaque "transport.StreamConn" → Int × Option String)
    (c : Code.measuredConn) (w : Opaque "io.Writer") (steps : List CopyStep)
    (h0 : 0 ≤ c.readCount) (hn : (copy w c.StreamConn).1 = (copied steps : Int)) :
    ∃ c', Code.measuredConn.WriteTo copy c w = some (c', (copy w c.StreamConn).1, (copy w c.StreamConn).2) ∧
      abs c' = step (abs c) (.writeTo steps) :=
  ⟨_, rfl, abs_addRead c h0 hn⟩

/-- ReadFrom: through the underlying ReaderFrom when there is one, else io.Copy(underlying, r); either way
    the write counter grows by the reported count -/
theorem readFrom_tie (impl : Opaque "transport.StreamConn" → Bool)
    (rf : Opaque "io.ReaderFrom" → Opaque "io.Reader" → Int × Option String)
    (copy : Opaque "transport.StreamConn" → Opaque "io.Reader" → Int × Option String)
    (c : Code.measuredConn) (r : Opaque "io.Reader") (steps : List CopyStep) (h0 : 0 ≤ c.writeCount)
    (hn : (if impl c.StreamConn then rf ⟨c.StreamConn.val⟩ r else copy c.StreamConn r).1 = (copied steps : Int)) :
    ∃ c', Code.measuredConn.ReadFrom rf impl copy c r =
        some (c', (if impl c.StreamConn then rf ⟨c.StreamConn.val⟩ r else copy c.StreamConn r).1,
                  (if impl c.StreamConn then rf ⟨c.StreamConn.val⟩ r else copy c.StreamConn r).2) ∧
      abs c' = step (abs c) (.readFrom (impl c.StreamConn) steps) := by
  unfold Code.measuredConn.ReadFrom
  cases hi : impl c.StreamConn <;> simp only [hi, Bool.false_eq_true, if_false, if_true] at hn ⊢
  all_goals exact ⟨_, rfl, abs_addWrite c h0 hn⟩

end OutlineModel.Tie.MConn
