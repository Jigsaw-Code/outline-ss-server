/-
The shared listener (Model/Shared), for C12.  `step_cases` takes a step that happened apart: what each possible event
requires of the state and which fields it changes (for a delivery and for a call also when the step is possible:
`deliver_isSome`, `call_on_closed`).  With a concrete event (`step s (.close h) = some s'`) `apply step_cases` cannot find
its motive: first `generalize he : Ev.close h = e at hs; revert he`, as `close_effect` does.  `Inv`
is an inductive invariant of the transition system: two conservation laws (handles: issued = open + closed; items:
seen = queued + delivered + dropped) and what ties `waiting`, `sock` and `queue` to the open handles.
-/
import OutlineModel.Model.Shared

namespace OutlineModel.Shared

structure Inv (s : St) : Prop where
  handles : (s.opened ++ s.closedH).Perm (List.range s.next)
  waitingNodup : s.waiting.Nodup
  waitingOpen : ∀ h ∈ s.waiting, h ∈ s.opened
  sockIff : s.opened = [] ↔ s.sock = false
  queueSock : s.sock = false → s.queue = []
  /-- nested to the left: `(queue ++ delivered) ++ dropped` -/
  conserved : (s.queue ++ s.delivered.map (·.1) ++ s.dropped).Perm s.seen
  seenNodup : s.seen.Nodup
  refusedNot : ∀ i ∈ s.refused, i ∉ s.seen

theorem inv_init : Inv {} := by
  constructor <;> simp

theorem step_cases {P : Ev → St → Prop} {s s' : St} {e : Ev} (hs : step s e = some s')
    (acquire : P .acquire { s with next := s.next + 1, opened := s.next :: s.opened, sock := true })
    (arrive : ∀ i, i ∉ s.seen → i ∉ s.refused → s.sock = true →
      P (.arrive i) { s with queue := s.queue ++ [i], seen := s.seen ++ [i] })
    (refuse : ∀ i, i ∉ s.seen → i ∉ s.refused → s.sock = false →
      P (.arrive i) { s with refused := s.refused ++ [i] })
    (callClosed : ∀ h, h ∈ s.closedH → P (.call h) { s with errs := h :: s.errs })
    (call : ∀ h, h ∈ s.opened → h ∉ s.waiting → P (.call h) { s with waiting := h :: s.waiting })
    (deliver : ∀ i h, i ∈ s.queue → h ∈ s.waiting →
      P (.deliver i h) { s with queue := s.queue.erase i, waiting := s.waiting.erase h,
                                delivered := (i, h) :: s.delivered })
    (close : ∀ h, h ∈ s.opened → s.opened.erase h ≠ [] →
      P (.close h) { s with opened := s.opened.erase h, closedH := h :: s.closedH, waiting := s.waiting.erase h,
                            errs := if h ∈ s.waiting then h :: s.errs else s.errs })
    (closeLast : ∀ h, h ∈ s.opened → s.opened.erase h = [] →
      P (.close h) { s with opened := s.opened.erase h, closedH := h :: s.closedH, waiting := s.waiting.erase h,
                            errs := if h ∈ s.waiting then h :: s.errs else s.errs,
                            sock := false, dropped := s.dropped ++ s.queue, queue := [] }) :
    P e s' := by
  -- `by_cases` and `if_pos`/`if_neg` rather than `split`: on these record terms `split` is several times dearer
  cases e with
  | acquire => cases hs; exact acquire
  | arrive i =>
    simp only [step, Bool.or_eq_true, List.contains_iff_mem, Option.ite_none_left_eq_some, not_or] at hs
    obtain ⟨⟨hseen, href⟩, hs⟩ := hs
    by_cases hsock : s.sock = true
    · rw [if_pos hsock] at hs; cases hs; exact arrive i hseen href hsock
    · rw [if_neg hsock] at hs; cases hs; exact refuse i hseen href (Bool.eq_false_iff.mpr hsock)
  | call h =>
    simp only [step, Bool.and_eq_true, List.contains_iff_mem, Bool.not_eq_true', ← Bool.not_eq_true] at hs
    by_cases hc : h ∈ s.closedH
    · rw [if_pos hc] at hs; cases hs; exact callClosed h hc
    · rw [if_neg hc, Option.ite_none_right_eq_some] at hs
      obtain ⟨⟨ho, hw⟩, ⟨⟩⟩ := hs
      exact call h ho hw
  | deliver i h =>
    simp only [step, Bool.and_eq_true, List.contains_iff_mem, Option.ite_none_right_eq_some] at hs
    obtain ⟨⟨hq, hw⟩, ⟨⟩⟩ := hs
    exact deliver i h hq hw
  | close h =>
    simp only [step, List.contains_iff_mem, List.isEmpty_iff, Option.ite_none_right_eq_some] at hs
    obtain ⟨ho, hs⟩ := hs
    by_cases he : s.opened.erase h = []
    · rw [if_pos he] at hs; cases hs; exact closeLast h ho he
    · rw [if_neg he] at hs; cases hs; exact close h ho he

theorem Inv.handlesNodup {s : St} (h : Inv s) : (s.opened ++ s.closedH).Nodup :=
  h.handles.nodup_iff.mpr List.nodup_range

theorem Inv.openedNodup {s : St} (h : Inv s) : s.opened.Nodup := (List.nodup_append.mp h.handlesNodup).1

theorem Inv.disj {s : St} (h : Inv s) : ∀ x ∈ s.opened, x ∉ s.closedH :=
  fun x ho hc => (List.nodup_append.mp h.handlesNodup).2.2 x ho x hc rfl

private theorem perm_arrive {q m d seen : List Nat} (i : Nat) (hp : (q ++ m ++ d).Perm seen) :
    (q ++ [i] ++ m ++ d).Perm (seen ++ [i]) := by
  simp only [List.append_assoc, List.singleton_append] at hp ⊢
  exact List.perm_middle.trans ((hp.cons i).trans (List.perm_append_singleton i seen).symm)

private theorem perm_move {a b : List Nat} {i : Nat} (hi : i ∈ a) : (a.erase i ++ i :: b).Perm (a ++ b) :=
  List.perm_middle.trans ((List.perm_cons_erase hi).symm.append_right b)

private theorem perm_lastclose {q m d seen : List Nat}
    (hp : (q ++ m ++ d).Perm seen) : (([] : List Nat) ++ m ++ (d ++ q)).Perm seen := by
  refine List.Perm.trans ?_ hp
  simp only [List.nil_append, List.append_assoc]
  rw [← List.append_assoc]
  exact List.perm_append_comm

private theorem waiting_erase {s : St} (h : Inv s) (c : Handle) :
    ∀ x ∈ s.waiting.erase c, x ∈ s.opened.erase c := fun x hx =>
  have hx := h.waitingNodup.mem_erase_iff.mp hx
  (List.mem_erase_of_ne hx.1).mpr (h.waitingOpen x hx.2)

theorem inv_step {s s' : St} {e : Ev} (h : Inv s) (hs : step s e = some s') : Inv s' := by
  apply step_cases hs
  case acquire =>
    exact { h with
      handles := by
        rw [List.range_succ]
        exact (h.handles.cons _).trans (List.perm_append_singleton _ _).symm
      waitingOpen := fun x hx => List.mem_cons_of_mem _ (h.waitingOpen x hx)
      sockIff := by simp
      queueSock := by simp }
  case arrive =>
    intro i hs hr hsock
    exact { h with
      queueSock := by simp [hsock]
      conserved := perm_arrive i h.conserved
      seenNodup := (List.perm_append_singleton i _).nodup_iff.mpr (List.nodup_cons.mpr ⟨hs, h.seenNodup⟩)
      refusedNot := fun x hx hm => by
        rcases List.mem_append.mp hm with hm | hm
        · exact h.refusedNot x hx hm
        · exact hr (List.mem_singleton.mp hm ▸ hx) }
  case refuse =>
    intro i hs hr _
    exact { h with
      refusedNot := fun x hx => by
        rcases List.mem_append.mp hx with hx | hx
        · exact h.refusedNot x hx
        · exact List.mem_singleton.mp hx ▸ hs }
  case callClosed =>
    intro c _
    exact { h with }
  case call =>
    intro c ho hw
    exact { h with
      waitingNodup := List.nodup_cons.mpr ⟨hw, h.waitingNodup⟩
      waitingOpen := fun x hx => by
        rcases List.mem_cons.mp hx with rfl | hx
        · exact ho
        · exact h.waitingOpen x hx }
  case deliver =>
    intro i d hq hw
    exact { h with
      waitingNodup := h.waitingNodup.erase d
      waitingOpen := fun x hx => h.waitingOpen x (List.mem_of_mem_erase hx)
      queueSock := fun hf => by simp [h.queueSock hf]
      conserved := ((perm_move hq).append_right _).trans h.conserved }
  case close =>
    intro c ho hne
    exact { h with
      handles := (perm_move ho).trans h.handles
      waitingNodup := h.waitingNodup.erase c
      waitingOpen := waiting_erase h c
      sockIff := iff_of_false hne fun hf => List.ne_nil_of_mem ho (h.sockIff.mpr hf) }
  case closeLast =>
    intro c ho hemp
    exact { h with
      handles := (perm_move ho).trans h.handles
      waitingNodup := h.waitingNodup.erase c
      waitingOpen := waiting_erase h c
      sockIff := by simp [hemp]
      queueSock := fun _ => rfl
      conserved := perm_lastclose h.conserved }

theorem run_induction {P : St → Prop} (hstep : ∀ {s s' e}, P s → step s e = some s' → P s')
    {s s' : St} {evs : List Ev} (h : P s) (hr : run s evs = some s') : P s' := by
  induction evs generalizing s with
  | nil => cases hr; exact h
  | cons e es ih =>
    obtain ⟨s1, hst, hr⟩ := Option.bind_eq_some_iff.mp hr
    exact ih (hstep h hst) hr

theorem inv_run {s s' : St} {evs : List Ev} (h : Inv s) (hr : run s evs = some s') : Inv s' :=
  run_induction inv_step h hr

theorem inv_reachable {s : St} (h : Reachable s) : Inv s := by
  obtain ⟨evs, hr⟩ := h
  exact inv_run inv_init hr

theorem delivered_exactly_once {s : St} (h : Reachable s) :
    (s.delivered.map (·.1)).Nodup ∧ ∀ p ∈ s.delivered, p.1 ∉ s.queue ∧ p.1 ∉ s.dropped := by
  have hi := inv_reachable h
  have hn : (s.queue ++ s.delivered.map (·.1) ++ s.dropped).Nodup := hi.conserved.nodup_iff.mpr hi.seenNodup
  rw [List.nodup_append, List.nodup_append] at hn
  obtain ⟨⟨_, hm, hqm⟩, _, hmd⟩ := hn
  refine ⟨hm, fun p hp => ?_⟩
  have hpm : p.1 ∈ s.delivered.map (·.1) := List.mem_map_of_mem hp
  exact ⟨fun hq => hqm _ hq _ hpm rfl, fun hd => hmd _ (List.mem_append_right _ hpm) _ hd rfl⟩

theorem conservation {s : St} (h : Reachable s) :
    (s.queue ++ s.delivered.map (·.1) ++ s.dropped).Perm s.seen ∧ s.seen.Nodup :=
  ⟨(inv_reachable h).conserved, (inv_reachable h).seenNodup⟩

theorem deliver_isSome {s : St} {i : Item} {h : Handle} :
    (step s (.deliver i h)).isSome ↔ i ∈ s.queue ∧ h ∈ s.waiting := by
  simp only [step, Bool.and_eq_true, List.contains_iff_mem]
  split <;> simp [*]

theorem dropped_only_at_last_close {s s' : St} {e : Ev} (hs : step s e = some s') :
    s'.dropped = s.dropped ∨
      (∃ h, e = .close h ∧ s.opened = [h] ∧ s'.opened = [] ∧ s'.dropped = s.dropped ++ s.queue ∧
        s'.queue = []) := by
  apply step_cases hs
  case closeLast =>
    exact fun c ho hemp =>
      Or.inr ⟨c, rfl, (List.erase_eq_nil_iff.mp hemp).resolve_left (List.ne_nil_of_mem ho), hemp, rfl, rfl⟩
  all_goals intros; exact Or.inl rfl

theorem close_effect {s s' : St} {h : Handle} (hi : Inv s) (hs : step s (.close h) = some s') :
    h ∉ s'.opened ∧ h ∉ s'.waiting ∧ h ∈ s'.closedH ∧
    (h ∈ s.waiting → s'.errs = h :: s.errs) ∧ (h ∉ s.waiting → s'.errs = s.errs) ∧
    (∀ h', h' ≠ h → (h' ∈ s'.opened ↔ h' ∈ s.opened) ∧ (h' ∈ s'.waiting ↔ h' ∈ s.waiting)) ∧
    s'.delivered = s.delivered := by
  have ho := hi.openedNodup
  have hw := hi.waitingNodup
  have key : s'.opened = s.opened.erase h ∧ s'.waiting = s.waiting.erase h ∧ s'.closedH = h :: s.closedH ∧
      s'.errs = (if h ∈ s.waiting then h :: s.errs else s.errs) ∧ s'.delivered = s.delivered := by
    -- `step_cases` wants the event a variable: keep what it is as an equation each row has to meet
    generalize he : Ev.close h = e at hs
    revert he
    apply step_cases hs
    case close => rintro _ _ _ ⟨⟩; exact ⟨rfl, rfl, rfl, rfl, rfl⟩
    case closeLast => rintro _ _ _ ⟨⟩; exact ⟨rfl, rfl, rfl, rfl, rfl⟩
    all_goals intros; contradiction
  obtain ⟨k1, k2, k3, k4, k5⟩ := key
  rw [k1, k2, k3, k4, k5]
  exact ⟨fun hm => (ho.mem_erase_iff.mp hm).1 rfl, fun hm => (hw.mem_erase_iff.mp hm).1 rfl, List.mem_cons_self,
    fun hm => if_pos hm, fun hm => if_neg hm, fun h' hne =>
      ⟨ho.mem_erase_iff.trans (and_iff_right hne), hw.mem_erase_iff.trans (and_iff_right hne)⟩, rfl⟩

theorem call_on_closed {s : St} {h : Handle} (hc : h ∈ s.closedH) :
    step s (.call h) = some { s with errs := h :: s.errs } := by
  simp only [step]
  rw [if_pos (by simpa using hc)]

private theorem closedH_mono_step {h : Handle} {s s' : St} {e : Ev} (hc : h ∈ s.closedH)
    (hs : step s e = some s') : h ∈ s'.closedH := by
  apply step_cases hs
  case close => exact fun _ _ _ => List.mem_cons_of_mem _ hc
  case closeLast => exact fun _ _ _ => List.mem_cons_of_mem _ hc
  all_goals intros; exact hc

theorem closed_never_receives {s s' : St} {evs : List Ev} {h : Handle} (hi : Inv s) (hc : h ∈ s.closedH)
    (hr : run s evs = some s') : h ∈ s'.closedH ∧ h ∉ s'.opened ∧ ∀ i, step s' (.deliver i h) = none := by
  have hi' := inv_run hi hr
  have hc' : h ∈ s'.closedH := run_induction (P := fun s => h ∈ s.closedH) closedH_mono_step hc hr
  have hno : h ∉ s'.opened := fun ho => hi'.disj h ho hc'
  exact ⟨hc', hno, fun i => Option.not_isSome_iff_eq_none.mp fun hd =>
    hno (hi'.waitingOpen h (deliver_isSome.mp hd).2)⟩

theorem last_close_releases {s : St} (h : Reachable s) :
    (s.opened = [] ↔ s.sock = false) ∧ (s.sock = false → s.queue = [] ∧ s.waiting = []) := by
  have hi := inv_reachable h
  exact ⟨hi.sockIff, fun hf => ⟨hi.queueSock hf, List.eq_nil_iff_forall_not_mem.mpr fun x hx =>
    List.not_mem_nil (hi.sockIff.mpr hf ▸ hi.waitingOpen x hx)⟩⟩

theorem refused_never_delivered {s : St} (h : Reachable s) :
    ∀ i ∈ s.refused, i ∉ s.seen ∧ ∀ p ∈ s.delivered, p.1 ≠ i := by
  have hi := inv_reachable h
  intro i hr
  refine ⟨hi.refusedNot i hr, fun p hp heq => hi.refusedNot i hr (hi.conserved.subset ?_)⟩
  exact heq ▸ List.mem_append_left _ (List.mem_append_right _ (List.mem_map_of_mem hp))

def demo : List Ev :=
  [.acquire, .acquire, .arrive 10, .call 0, .deliver 10 0, .call 1, .close 1, .arrive 11, .close 0,
   .arrive 12, .acquire, .arrive 13, .call 2, .deliver 13 2]

example : (run {} demo).isSome = true := by decide +kernel
example : (run {} demo).map (·.delivered) = some [(13, 2), (10, 0)] := by decide +kernel
example : (run {} demo).map (·.dropped) = some [11] := by decide +kernel
example : (run {} demo).map (·.errs) = some [1] := by decide +kernel
example : (run {} demo).map (·.sock) = some true := by decide +kernel
example : (run {} demo).map (·.refused) = some [12] := by decide +kernel
example : (run {} demo).map (·.opened) = some [2] := by decide +kernel
example : (run {} demo).map (·.queue) = some [] := by decide +kernel
example : (run {} demo).map (·.seen) = some [10, 11, 13] := by decide +kernel
/-- the state just after the last close -/
example : (run {} (demo.take 9)).map (fun s => (s.sock, s.opened, s.queue, s.dropped, s.waiting)) =
    some (false, [], [], [11], []) := by decide +kernel
example : ((run {} demo).bind (step · (.call 1))).map (·.errs) = some [1, 1] := by decide +kernel
example : (run {} (demo ++ [.arrive 14, .deliver 14 1])) = none := by decide +kernel
example : Reachable ((run {} demo).getD {}) := ⟨demo, by decide +kernel⟩

end OutlineModel.Shared
