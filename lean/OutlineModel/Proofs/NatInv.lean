import OutlineModel.Proofs.UDP
import OutlineModel.Proofs.ListLemmas
import OutlineModel.Model.UDPRun
namespace OutlineModel.UDP
open OutlineModel.CipherList OutlineModel.Socks

/-- one entry per client string, one socket per entry, sockets are fresh identities, a live entry's
    socket is not closed -/
structure NatInv (st : State) : Prop where
  clients_nodup : (st.nat.map (·.client)).Nodup
  socks_nodup : (st.nat.map (·.sock)).Nodup
  socks_lt : ∀ a ∈ st.nat, a.sock < st.nextSock
  closed_lt : ∀ s ∈ st.closedSocks, s < st.nextSock
  live_open : ∀ a ∈ st.nat, a.sock ∉ st.closedSocks

theorem lookupNat_none {nat : List Assoc} {c : String} (h : lookupNat nat c = none) : c ∉ nat.map (·.client) :=
  (List.find?_key_eq_none Assoc.client).1 h

theorem lookupNat_some {nat : List Assoc} {c : String} {a : Assoc} (h : lookupNat nat c = some a) :
    a ∈ nat ∧ a.client = c :=
  List.of_find?_key_eq_some Assoc.client h

theorem lookupNat_filter (nat : List Assoc) (c c' : String) :
    lookupNat (nat.filter (fun x => !(x.client == c))) c' = if c = c' then none else lookupNat nat c' :=
  List.find?_filter_key_ne Assoc.client c c' nat

theorem lookupNat_filter_self (nat : List Assoc) (c : String) :
    lookupNat (nat.filter (fun x => !(x.client == c))) c = none :=
  (lookupNat_filter nat c c).trans (if_pos rfl)

-- in these three, give `f` explicitly when `hf` is proved by `rfl`: left to unification it becomes the identity
theorem lookupNat_updateAssoc (nat : List Assoc) (c c' : String) (f : Assoc → Assoc) (hf : ∀ x, (f x).client = x.client) :
    lookupNat (updateAssoc nat c f) c' = if c = c' then (lookupNat nat c).map f else lookupNat nat c' :=
  List.find?_mapIf Assoc.client f c c' (fun x h => (hf x).trans h) nat

theorem map_updateAssoc {β : Type} (π : Assoc → β) (nat : List Assoc) (c : String) (f : Assoc → Assoc)
    (hf : ∀ x, π (f x) = π x) : (updateAssoc nat c f).map π = nat.map π :=
  List.map_map_ite π _ f (fun x _ => hf x) nat

theorem length_updateAssoc (nat : List Assoc) (c : String) (f : Assoc → Assoc) :
    (updateAssoc nat c f).length = nat.length :=
  List.length_map _

theorem expire_once (st : State) (client : String) :
    (expire (expire st client).1 client).2 = [] ∧
    ((lookupNat st.nat client).isSome → ∃ s, (expire st client).2 = [.natRemove client s]) := by
  cases hn : lookupNat st.nat client with
  | none => rw [expire_none hn, expire_none hn]; exact ⟨rfl, nofun⟩
  | some a =>
    rw [expire_some hn, expire_none (lookupNat_filter_self _ _)]
    exact ⟨rfl, fun _ => ⟨_, rfl⟩⟩

theorem NatInv.update {st : State} (inv : NatInv st) (c : String) (f : Assoc → Assoc)
    (hc : ∀ x, (f x).client = x.client) (hs : ∀ x, (f x).sock = x.sock) :
    NatInv { st with nat := updateAssoc st.nat c f } := by
  have hsocks := map_updateAssoc (·.sock) st.nat c f hs
  have hsock : ∀ y ∈ updateAssoc st.nat c f, ∃ x ∈ st.nat, x.sock = y.sock :=
    fun y hy => List.mem_map.1 (hsocks ▸ List.mem_map_of_mem hy)
  refine ⟨?_, hsocks ▸ inv.socks_nodup, ?_, inv.closed_lt, ?_⟩
  · exact map_updateAssoc (·.client) st.nat c f hc ▸ inv.clients_nodup
  · intro y hy
    obtain ⟨x, hx, e⟩ := hsock y hy
    exact e ▸ inv.socks_lt x hx
  · intro y hy
    obtain ⟨x, hx, e⟩ := hsock y hy
    exact e ▸ inv.live_open x hx

theorem NatInv.setList {st : State} (inv : NatInv st) (l : List Entry) : NatInv { st with list := l } :=
  ⟨inv.clients_nodup, inv.socks_nodup, inv.socks_lt, inv.closed_lt, inv.live_open⟩

theorem onWrite_client (a : Assoc) (p d : Nat) : (a.onWrite p d).client = a.client := rfl
theorem onWrite_sock (a : Assoc) (p d : Nat) : (a.onWrite p d).sock = a.sock := rfl
theorem onWrite_key (a : Assoc) (p d : Nat) : (a.onWrite p d).key = a.key := rfl

variable (dnsPort : Nat) (ki : KeyInfo) (validate : List UInt8 → IP.Verdict) (resolve : Target → Resolved)

theorem NatInv.add {st : State} (inv : NatInv st) (a : Assoc) (hc : lookupNat st.nat a.client = none) (hs : a.sock = st.nextSock) :
    NatInv { st with nat := a :: st.nat, nextSock := st.nextSock + 1 } := by
  refine ⟨List.nodup_cons.2 ⟨lookupNat_none hc, inv.clients_nodup⟩,
    List.nodup_cons.2 ⟨fun hm => ?_, inv.socks_nodup⟩,
    List.forall_mem_cons.2 ⟨hs ▸ Nat.lt_succ_self _, fun x hx => Nat.lt_succ_of_lt (inv.socks_lt x hx)⟩,
    fun s hs => Nat.lt_succ_of_lt (inv.closed_lt s hs),
    List.forall_mem_cons.2 ⟨fun hcl => ?_, inv.live_open⟩⟩
  -- what is left: the new socket identity is above every socket of the table, and above every closed one
  · obtain ⟨x, hx, (he : x.sock = a.sock)⟩ := List.mem_map.1 hm
    have := inv.socks_lt x hx
    omega
  · have := inv.closed_lt a.sock hcl
    omega

theorem NatInv.upstream {st : State} (inv : NatInv st) (client : String) (cip : Option Nat) (wire : Nat)
    (opens : List Nat) (plain : List UInt8) :
    NatInv (upstream dnsPort ki validate resolve st client cip wire opens plain).1 := by
  rcases upstream_cases validate resolve dnsPort ki st client cip wire opens plain with
    ⟨_, _, h⟩ | ⟨_, _, _, _, h⟩ | ⟨hn, l', _, _, _, _, _, _, _, h⟩ | ⟨_, _, _, _, _, _, _, h⟩ | ⟨_, _, _, _, _, _, h⟩ | ⟨_, _, _, h⟩ <;>
    rw [h]
  · exact inv
  · exact inv.setList _
  · exact (inv.setList l').add _ hn rfl
  · exact inv.update client _ (fun x => onWrite_client x _ _) (fun x => onWrite_sock x _ _)
  · exact inv
  · exact inv

theorem NatInv.remove {st : State} (inv : NatInv st) (a : Assoc) (ha : a ∈ st.nat) :
    NatInv { st with nat := st.nat.filter (fun x => !(x.client == a.client)), closedSocks := a.sock :: st.closedSocks } := by
  refine ⟨(List.filter_sublist.map _).nodup inv.clients_nodup,
    (List.filter_sublist.map _).nodup inv.socks_nodup,
    fun x hx => inv.socks_lt x (List.mem_filter.1 hx).1,
    List.forall_mem_cons.2 ⟨inv.socks_lt a ha, inv.closed_lt⟩, ?_⟩
  intro x hx hc
  obtain ⟨hxm, hne⟩ := List.mem_filter.1 hx
  rcases List.mem_cons.1 hc with h | h
  · -- same socket ⇒ same entry ⇒ same client
    have := List.eq_of_nodup_map Assoc.sock inv.socks_nodup hxm ha h
    simp [this] at hne
  · exact inv.live_open x hxm h

theorem NatInv.expire {st : State} (inv : NatInv st) (client : String) : NatInv (expire st client).1 := by
  cases hn : lookupNat st.nat client with
  | none => rw [expire_none hn]; exact inv
  | some a =>
    obtain ⟨ha, hc⟩ := lookupNat_some hn
    rw [expire_some hn, ← hc]
    exact inv.remove a ha

theorem NatInv.downstream {st : State} (inv : NatInv st) (bufSize maxAddrLen : Nat) (a : Assoc) (ha : a ∈ st.nat)
    (srcIP : List UInt8) (srcPort : Nat) (body : List UInt8) :
    NatInv (downstream dnsPort bufSize maxAddrLen st a srcIP srcPort body).1 := by
  rcases downstream_cases dnsPort bufSize maxAddrLen st a srcIP srcPort body with h | h | h <;> rw [h]
  · exact inv
  · exact inv.remove a ha
  · exact inv.update _ _ (fun _ => rfl) (fun _ => rfl)

theorem NatInv.init (l : List Entry) : NatInv (UDP.init l) := by
  refine ⟨?_, ?_, ?_, ?_, ?_⟩ <;> simp [UDP.init]

theorem NatInv.stepOp {st : State} (inv : NatInv st) (c : Cfg) (o : Op) : NatInv (stepOp c st o).1 := by
  cases o with
  | pkt client cip wire opens plain resolve | pktFail client cip wire opens plain resolve =>
    exact inv.upstream ..
  | reply client srcIP srcPort body =>
    simp only [UDP.stepOp]
    cases hn : lookupNat st.nat client with
    | none => exact inv
    | some a => exact inv.downstream _ _ _ a (lookupNat_some hn).1 _ _ _
  | expire client => exact inv.expire _
  | update l => exact inv.setList l

theorem NatInv.run {st : State} (inv : NatInv st) (c : Cfg) (ops : List Op) : NatInv (run c st ops) := by
  induction ops generalizing st with
  | nil => exact inv
  | cons o os ih => exact ih (inv.stepOp c o)

end OutlineModel.UDP
