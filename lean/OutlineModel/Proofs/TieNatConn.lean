import OutlineModel.Proofs.GoRT
import OutlineModel.Gen.Code
import OutlineModel.Gen.Consts
import OutlineModel.Model.NatConn
/-
Tie between the translated natconn.onWrite / onRead / WriteTo / ReadFrom (service/udp.go) and the model
Model/NatConn.lean.  The model carries ghost counters (writes, dnsWrites, fired) that the code does not have, so the tie
is a simulation relation (`R`) rather than an abstraction function.
-/
namespace OutlineModel.Tie.NatConn
open OutlineModel OutlineModel.GoRT OutlineModel.NatConn
open OutlineModel.Gen

/-- the argument of the most recent recorded `SetReadDeadline` call -/
def lastSet : List Eff → Option Int
  | [] => none
  | e :: rest => match lastSet rest with
    | some d => some d
    | none => if e.name = "SetReadDeadline" then e.args.head? else none

theorem lastSet_append_one (es : List Eff) (d : Int) : lastSet (es ++ [{ name := "SetReadDeadline", args := [d] }]) = some d := by
  induction es with
  | nil => simp [lastSet]
  | cons e rest ih => simp [lastSet, ih]

/-- `fastClose` (a sync.Once) is translated as its "already done" flag, hence `!s.armed`; the model's `sock` is the last
    `SetReadDeadline` of the effect log; the ghost counters are left free.  Four conjuncts, in this order:
    `obtain ⟨htimeout, hrd, hlatch, hsock⟩ := hR` -/
def R (timeout : Nat) (c : Code.natconn) (s : S) : Prop :=
  c.defaultTimeout = (timeout : Int) ∧ c.readDeadline = (s.rd : Int) ∧ c.fastClose = !s.armed ∧
  lastSet c.eff = s.sock.map (fun (d : Nat) => (d : Int))

def effOf : Option Nat → List Eff
  | some d => [{ name := "SetReadDeadline", args := [(d : Int)] }]
  | none => []

-- to use it: `generalize` the inner `if isDNS addr …` (or `by_cases` on the deadline test) before `split`, which
-- otherwise finds the inner `if` first
theorem onWrite_eq (isDNS : Opaque "net.Addr" → Bool) (now : Int) (c : Code.natconn) (addr : Opaque "net.Addr") :
    Code.natconn.onWrite isDNS now c addr = some
      (let nd := now + (if isDNS addr then 17000000000 else c.defaultTimeout)
       let c1 := { c with fastClose := c.fastClose || (!isDNS addr || !decide (c.readDeadline = 0)) }
       if nd > c.readDeadline then { c1 with readDeadline := nd, eff := c.eff ++ [{ name := "SetReadDeadline", args := [nd] }] }
       else c1) := by
  obtain ⟨pc, ck, m, dt, rd, fc, eff⟩ := c
  unfold Code.natconn.onWrite
  -- (`simp only []`, here and below: the `let mut x := x` rebindings of the parameters and the projections of `⟨…⟩` go)
  simp only []
  -- for each value of the three Booleans both sides are one test of the new deadline against the old one (split, not
  -- rewritten: the code may state it negated, as a guard clause)
  cases isDNS addr <;> cases fc <;> cases decide (rd = 0) <;>
    simp <;> split <;> simp [*]

/-- **onWrite**, with the DNS timeout as a variable `D` (kept symbolic: the kernel must never be asked to
    compute with a 17-billion literal next to a variable) -/
theorem onWrite_tie_gen (D : Nat) (hD : (17000000000 : Int) = (D : Int))
    (isDNS : Opaque "net.Addr" → Bool) (now timeout : Nat) (c : Code.natconn) (s : S) (addr : Opaque "net.Addr")
    (hR : R timeout c s) :
    ∃ c', Code.natconn.onWrite isDNS (now : Int) c addr = some c' ∧
      R timeout c' (onWrite s (isDNS addr) now timeout D).1 ∧
      c'.eff = c.eff ++ effOf (onWrite s (isDNS addr) now timeout D).2 := by
  obtain ⟨h1, h2, h3, h4⟩ := hR
  refine ⟨_, onWrite_eq isDNS now c addr, ?_⟩
  -- code and model compute the same new deadline and the same latch
  have hnd : (now : Int) + (if isDNS addr then 17000000000 else c.defaultTimeout) =
      ((now + (if isDNS addr then D else timeout) : Nat) : Int) := by
    rw [hD, h1]; split <;> simp
  have hb : (c.fastClose || (!isDNS addr || !decide ((s.rd : Int) = 0))) =
      !(if !isDNS addr || !(s.rd == 0) then false else s.armed) := by
    rw [h3]
    cases isDNS addr <;> cases s.armed <;> by_cases hz : s.rd = 0 <;> simp [hz]
  simp only [hnd, h2, onWrite, gt_iff_lt, Int.ofNat_lt]
  generalize (if isDNS addr = true then D else timeout) = t
  by_cases hc : s.rd < now + t
  · rw [if_pos hc, if_pos hc]
    exact ⟨⟨h1, rfl, hb, lastSet_append_one _ _⟩, rfl⟩
  · rw [if_neg hc, if_neg hc]
    exact ⟨⟨h1, rfl, hb, h4⟩, (List.append_nil _).symm⟩

/-- **onWrite** against the model with the generated DNS timeout -/
theorem onWrite_tie (isDNS : Opaque "net.Addr" → Bool) (now timeout : Nat) (c : Code.natconn) (s : S) (addr : Opaque "net.Addr")
    (hR : R timeout c s) :
    ∃ c', Code.natconn.onWrite isDNS (now : Int) c addr = some c' ∧
      R timeout c' (onWrite s (isDNS addr) now timeout Gen.dnsTimeoutNs).1 ∧
      c'.eff = c.eff ++ effOf (onWrite s (isDNS addr) now timeout Gen.dnsTimeoutNs).2 :=
  onWrite_tie_gen Gen.dnsTimeoutNs (by decide) isDNS now timeout c s addr hR

/-- **onRead**: never panics; stays in the relation; sets the deadline to `now` exactly when the model fires -/
theorem onRead_tie (isDNS : Opaque "net.Addr" → Bool) (now timeout : Nat) (c : Code.natconn) (s : S) (addr : Opaque "net.Addr")
    (hR : R timeout c s) :
    ∃ c', Code.natconn.onRead isDNS (now : Int) c addr = some c' ∧
      R timeout c' (onRead s (isDNS addr) now).1 ∧
      c'.eff = c.eff ++ effOf (onRead s (isDNS addr) now).2 := by
  obtain ⟨h1, h2, h3, h4⟩ := hR
  unfold Code.natconn.onRead onRead
  simp only [h3]
  cases ha : s.armed with
  | false => exact ⟨c, rfl, ⟨h1, h2, h3, h4⟩, (List.append_nil _).symm⟩
  | true =>
    cases isDNS addr with
    | false => exact ⟨_, rfl, ⟨h1, h2, rfl, h4⟩, (List.append_nil _).symm⟩
    | true => exact ⟨_, rfl, ⟨h1, h2, rfl, lastSet_append_one _ _⟩, rfl⟩

inductive COp
  | write (addr : Opaque "net.Addr") (now : Nat)
  | read (addr : Opaque "net.Addr") (now : Nat)

def codeStep (isDNS : Opaque "net.Addr" → Bool) (c : Code.natconn) : COp → Option Code.natconn
  | .write a now => Code.natconn.onWrite isDNS (now : Int) c a
  | .read a now => Code.natconn.onRead isDNS (now : Int) c a

def codeRun (isDNS : Opaque "net.Addr" → Bool) (c : Code.natconn) : List COp → Option Code.natconn
  | [] => some c
  | o :: os => (codeStep isDNS c o).bind (fun c' => codeRun isDNS c' os)

def absOp (isDNS : Opaque "net.Addr" → Bool) : COp → Op
  | .write a now => .write (isDNS a) now
  | .read a now => .read (isDNS a) now

theorem codeStep_sim (isDNS : Opaque "net.Addr" → Bool) (timeout : Nat) (o : COp) (c : Code.natconn) (s : S) (h : R timeout c s) :
    ∃ c', codeStep isDNS c o = some c' ∧ R timeout c' (step timeout Gen.dnsTimeoutNs s (absOp isDNS o)) := by
  cases o with
  | write a now => obtain ⟨c', h1, h2, _⟩ := onWrite_tie isDNS now timeout c s a h; exact ⟨c', h1, h2⟩
  | read a now => obtain ⟨c', h1, h2, _⟩ := onRead_tie isDNS now timeout c s a h; exact ⟨c', h1, h2⟩

theorem codeRun_sim (isDNS : Opaque "net.Addr" → Bool) (timeout : Nat) :
    ∀ (os : List COp) (c : Code.natconn) (s : S), R timeout c s →
      ∃ c', codeRun isDNS c os = some c' ∧ R timeout c' (run timeout Gen.dnsTimeoutNs s (os.map (absOp isDNS))) := by
  intro os
  induction os with
  | nil => intro c s h; exact ⟨c, rfl, h⟩
  | cons o os ih =>
    intro c s h
    obtain ⟨c1, h1, h2⟩ := codeStep_sim isDNS timeout o c s h
    obtain ⟨c', h3, h4⟩ := ih c1 _ h2
    exact ⟨c', by simp [codeRun, h1, h3], h4⟩

theorem R_init (timeout : Nat) : R timeout { Code.natconn.zero with defaultTimeout := (timeout : Int) } init := by
  simp [R, Code.natconn.zero, init, lastSet]

/-- **natconn.WriteTo**: `onWrite` for the destination first, then the write on the wrapped socket — and nothing else -/
theorem writeTo_tie (w : Opaque "net.PacketConn" → List UInt8 → Opaque "net.Addr" → Int × Option String)
    (isDNS : Opaque "net.Addr" → Bool) (now : Int) (c : Code.natconn) (buf : List UInt8) (dst : Opaque "net.Addr") :
    Code.natconn.WriteTo w isDNS now c buf dst =
      (Code.natconn.onWrite isDNS now c dst).map (fun c' => (c', w c'.PacketConn buf dst)) := by
  unfold Code.natconn.WriteTo
  simp only []
  cases Code.natconn.onWrite isDNS now c dst <;> rfl

/-- **natconn.ReadFrom**: the read on the wrapped socket first; `onRead` for the source exactly when the read succeeded;
    the socket's answer is handed through unchanged -/
theorem readFrom_tie (rd : Opaque "net.PacketConn" → List UInt8 → Int × Opaque "net.Addr" × Option String)
    (isDNS : Opaque "net.Addr" → Bool) (now : Int) (c : Code.natconn) (buf : List UInt8) :
    Code.natconn.ReadFrom rd isDNS now c buf =
      if (rd c.PacketConn buf).2.2 = none then
        (Code.natconn.onRead isDNS now c (rd c.PacketConn buf).2.1).map (fun c' => (c', rd c.PacketConn buf))
      else some (c, rd c.PacketConn buf) := by
  unfold Code.natconn.ReadFrom
  simp only []
  rcases rd c.PacketConn buf with ⟨n, a, _ | e⟩
  · cases Code.natconn.onRead isDNS now c a <;> rfl
  · rfl

end OutlineModel.Tie.NatConn
