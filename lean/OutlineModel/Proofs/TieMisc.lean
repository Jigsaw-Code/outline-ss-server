import OutlineModel.Proofs.GoRT
import OutlineModel.Gen.Code
import OutlineModel.Gen.Consts
import OutlineModel.Model.Auth
/-
Ties for three small translated functions: MakeCipherEntry (service/cipher_list.go: which keys get marked salts),
drainErrToString (service/tcp.go), findAccessKeyUDP (service/udp.go: the trial-decryption search of the UDP handler).
-/
namespace OutlineModel.Tie.Misc
open OutlineModel OutlineModel.GoRT
open OutlineModel.Gen

theorem makeCipherEntry_eq (saltSize : Opaque "shadowsocks.EncryptionKey" → Int)
    (newGen : String → Opaque "service.ServerSaltGenerator") (rnd : Opaque "service.ServerSaltGenerator")
    (id secret : String) (k : Opaque "shadowsocks.EncryptionKey") :
    Code.MakeCipherEntry saltSize newGen rnd id k secret =
      some (⟨id, k, (if saltSize k - 4 ≥ 16 then newGen secret else rnd), ⟨0⟩⟩ : Code.CipherEntry) := by
  unfold Code.MakeCipherEntry
  by_cases h : saltSize k - 4 ≥ 16 <;> simp [h, Code.CipherEntry.zero]

/-- **MakeCipherEntry**: never panics; the entry carries the id and the key it was given; its salt generator is the marking
    one exactly when the model's `marked` says so for the generated mark length and minimum entropy (also for a salt
    shorter than the mark: `marked` itself asks for a salt at least as long as the mark) -/
theorem makeCipherEntry_tie (saltSize : Opaque "shadowsocks.EncryptionKey" → Int)
    (newGen : String → Opaque "service.ServerSaltGenerator") (rnd : Opaque "service.ServerSaltGenerator")
    (id secret : String) (k : Opaque "shadowsocks.EncryptionKey") (n : Nat) (hn : saltSize k = (n : Int)) :
    Code.MakeCipherEntry saltSize newGen rnd id k secret =
      some (⟨id, k, (if Auth.marked n Gen.serverSaltMarkLen Gen.minSaltEntropy = true then newGen secret else rnd), ⟨0⟩⟩ : Code.CipherEntry) := by
  have h4 : Gen.serverSaltMarkLen = 4 := rfl
  have h16 : Gen.minSaltEntropy = 16 := rfl
  rw [makeCipherEntry_eq, hn]
  simp only [Auth.marked, h4, h16]
  have : ((n : Int) - 4 ≥ 16) ↔ (n - 4 ≥ 16 ∧ 4 ≤ n) := by omega
  simp [this]

/-- **drainErrToString**: "eof" for the nil error, "timeout" for a net.Error that timed out, "other" otherwise — and nothing else -/
theorem drainErrToString_tie (timeout impl : Option String → Bool) (e : Option String) :
    Code.drainErrToString timeout impl e =
      some (if e = none then "eof" else if impl e && timeout e then "timeout" else "other") := by
  unfold Code.drainErrToString
  by_cases h : e = none
  · simp [h]
  · cases hi : impl e <;> cases ht : timeout e <;> simp [h, hi, ht]

section
variable (unpack : List UInt8 → List UInt8 → Opaque "shadowsocks.EncryptionKey" → List UInt8 × Option String)
  (dst src : List UInt8) (cl : Opaque "service.CipherList") (ip : Opaque "netip.Addr")

def opensU (k : Opaque "shadowsocks.EncryptionKey") : Bool := (unpack dst src k).2.isNone

def markEff (e : ListElem Code.CipherEntry) : Eff :=
  { name := "CipherList.MarkUsedByClientIP", args := [], vals := [[Atom.tok cl.val], [Atom.tok e.id], [Atom.tok ip.val]] }

/-- **findAccessKeyUDP**: never panics; tries the entries of the snapshot in order and returns the plaintext, id and key of
    the FIRST one whose key opens the datagram, marking exactly that entry used; when none opens it, an error, no plaintext
    and no call on the list — for every key list and order (search soundness and completeness for UDP) -/
theorem findAccessKeyUDP_tie (snapOf : Opaque "service.CipherList" → Opaque "netip.Addr" → List (ListElem Code.CipherEntry))
    (l : Opaque "slog.Logger") :
    Code.findAccessKeyUDP snapOf unpack ip dst src cl l =
      some (match (snapOf cl ip).find? (fun e => opensU unpack dst src e.Value.CryptoKey) with
        | some e => ((unpack dst src e.Value.CryptoKey).1, e.Value.ID, e.Value.CryptoKey, none, [markEff cl ip e])
        | none => ([], "", ⟨0⟩, some "could not find valid UDP cipher", [])) := by
  unfold Code.findAccessKeyUDP
  simp only [Option.bind_eq_bind]
  rw [forIn_enum_eq_loopE (fun e (s : List Eff) => if opensU unpack dst src e.Value.CryptoKey
      then .error (((unpack dst src e.Value.CryptoKey).1, e.Value.ID, e.Value.CryptoKey, none, s ++ [markEff cl ip e]), s ++ [markEff cl ip e])
      else .ok s), loopE_find]
  · cases (snapOf cl ip).find? (fun e => opensU unpack dst src e.Value.CryptoKey) <;> rfl
  · intro i e _ s
    cases h : (unpack dst src e.Value.CryptoKey).2 <;> simp [opensU, markEff, h]
end

end OutlineModel.Tie.Misc
