/-
Lock-set discipline (for C19): race freedom and serial critical sections.  `holder (tr.take i) l` is the holder of `l`
just before event `i` executes; the model's `holdsAt tr i t l` is by definition `holder (tr.take i) l = some t`, and the lemmas
are stated in that unfolded form (`unfold holdsAt at *` first).  Everything rests on the two interval lemmas `release_between` and `acquire_between`:
a holder that is there before `i` and gone before `j` (or the converse) changed at some step in between (`exists_lost`),
and `holder` changes only at an acquire or a release of that lock (`holder_change`).
-/
import OutlineModel.Model.LockSet

namespace OutlineModel.LockSet

theorem lt_length_of_getElem? {tr : List Ev} {i : Nat} {e : Ev} (h : tr[i]? = some e) : i < tr.length :=
  (List.getElem?_eq_some_iff.1 h).1

theorem holder_take_succ (tr : List Ev) (l n : Nat) :
    holder (tr.take (n + 1)) l =
      match tr[n]? with
      | some e => step l (holder (tr.take n) l) e
      | none => holder (tr.take n) l := by
  unfold holder
  rw [List.take_add_one, List.foldl_append]
  cases tr[n]? <;> simp

theorem holder_after_acq {tr : List Ev} {i t l : Nat} (h : tr[i]? = some (.acq t l)) :
    holder (tr.take (i + 1)) l = some t := by
  rw [holder_take_succ, h]; simp [step]

theorem holder_after_rel {tr : List Ev} {i t l : Nat} (h : tr[i]? = some (.rel t l)) :
    holder (tr.take (i + 1)) l = none := by
  rw [holder_take_succ, h]; simp [step]

theorem wf_acq {tr : List Ev} (hw : WellFormed tr) {i t l : Nat} (h : tr[i]? = some (.acq t l)) :
    holder (tr.take i) l = none := by
  simpa only [okAt, h] using hw i (lt_length_of_getElem? h)

theorem wf_rel {tr : List Ev} (hw : WellFormed tr) {i t l : Nat} (h : tr[i]? = some (.rel t l)) :
    holder (tr.take i) l = some t := by
  simpa only [okAt, h] using hw i (lt_length_of_getElem? h)

theorem wellFormed_iff (tr : List Ev) :
    WellFormed tr ↔
      (∀ i t l, tr[i]? = some (.acq t l) → holder (tr.take i) l = none) ∧
      (∀ i t l, tr[i]? = some (.rel t l) → holdsAt tr i t l) := by
  constructor
  · intro hw
    exact ⟨fun i t l h => wf_acq hw h, fun i t l h => wf_rel hw h⟩
  · intro ⟨ha, hr⟩ i _
    unfold okAt
    split
    · next t l h => exact ha i t l h
    · next t l h => exact hr i t l h
    · trivial

theorem guarded_iff (tr : List Ev) (x g : Nat) :
    Guarded tr x g ↔
      ∀ i t, (tr[i]? = some (.read t x) ∨ tr[i]? = some (.write t x)) → holdsAt tr i t g := by
  constructor
  · intro hg i t h
    rcases h with h | h <;>
    · have := hg i (lt_length_of_getElem? h)
      simp only [guardedAt, h] at this
      exact this trivial
  · intro hg i _
    unfold guardedAt
    split
    · next t y h => intro hy; subst hy; exact hg i t (Or.inl h)
    · next t y h => intro hy; subst hy; exact hg i t (Or.inr h)
    · trivial

theorem exists_lost {Q : Nat → Prop} [DecidablePred Q] {i : Nat} (hi : Q i) :
    ∀ j, i ≤ j → ¬ Q j → ∃ k, i ≤ k ∧ k < j ∧ Q k ∧ ¬ Q (k + 1) := by
  intro j
  induction j with
  | zero => intro hij hj; exact absurd (Nat.le_zero.1 hij ▸ hi) hj
  | succ j ih =>
    intro hij hj
    by_cases hlt : i = j + 1
    · exact absurd (hlt ▸ hi) hj
    by_cases hq : Q j
    · exact ⟨j, by omega, Nat.lt_succ_self j, hq, hj⟩
    · obtain ⟨k, h1, h2, h3⟩ := ih (by omega) hq
      exact ⟨k, h1, Nat.lt_succ_of_lt h2, h3⟩

theorem holder_change {tr : List Ev} {l k : Nat} (h : holder (tr.take (k + 1)) l ≠ holder (tr.take k) l) :
    (∃ t, tr[k]? = some (.acq t l)) ∨ (∃ t, tr[k]? = some (.rel t l)) := by
  rw [holder_take_succ] at h
  cases he : tr[k]? with
  | none => rw [he] at h; exact absurd rfl h
  | some e =>
    rw [he] at h
    cases e with
    | acq t l' =>
      by_cases hl : l' = l
      · subst hl; exact .inl ⟨t, rfl⟩
      · simp [step, hl] at h
    | rel t l' =>
      by_cases hl : l' = l
      · subst hl; exact .inr ⟨t, rfl⟩
      · simp [step, hl] at h
    | read _ _ => exact absurd rfl h
    | write _ _ => exact absurd rfl h

theorem release_between {tr : List Ev} (hw : WellFormed tr) {l t i : Nat}
    (hi : holder (tr.take i) l = some t) (j : Nat) (hij : i ≤ j) (hj : holder (tr.take j) l ≠ some t) :
    ∃ k, i ≤ k ∧ k < j ∧ tr[k]? = some (.rel t l) := by
  obtain ⟨k, h1, h2, hk, hk'⟩ := exists_lost (Q := fun n => holder (tr.take n) l = some t) hi j hij hj
  rcases holder_change (hk ▸ hk') with ⟨t', he⟩ | ⟨t', he⟩
  · -- an acquire at `k` finds `l` free, yet `t` holds it there
    exact absurd ((wf_acq hw he).symm.trans hk) nofun
  · -- the releasing thread is the holder, `t`
    cases (wf_rel hw he).symm.trans hk
    exact ⟨k, h1, h2, he⟩

theorem acquire_between {tr : List Ev} {l t i : Nat}
    (hi : holder (tr.take i) l ≠ some t) (j : Nat) (hij : i ≤ j) (hj : holder (tr.take j) l = some t) :
    ∃ k, i ≤ k ∧ k < j ∧ tr[k]? = some (.acq t l) := by
  obtain ⟨k, h1, h2, hk, hk'⟩ := exists_lost (Q := fun n => holder (tr.take n) l ≠ some t) hi j hij (fun h => h hj)
  have hk' : holder (tr.take (k + 1)) l = some t := Decidable.of_not_not hk'
  rcases holder_change (fun h => hk (h ▸ hk')) with ⟨t', he⟩ | ⟨t', he⟩
  · cases (holder_after_acq he).symm.trans hk'
    exact ⟨k, h1, h2, he⟩
  · exact absurd ((holder_after_rel he).symm.trans hk') nofun

/-- the happens-before chain `access₁ (i) <po rel t1 g (k) <sw acq t2 g (k') <po access₂ (j)` -/
theorem lockset_happens_before {tr : List Ev} {x g i j t1 t2 : Nat}
    (hw : WellFormed tr) (hg : Guarded tr x g)
    (hi : accessAt tr i t1 x) (hj : accessAt tr j t2 x)
    (hij : i < j) (hne : t1 ≠ t2) :
    ∃ k k', i < k ∧ k < k' ∧ k' < j ∧
      tr[k]? = some (.rel t1 g) ∧ tr[k']? = some (.acq t2 g) := by
  have h1 : holder (tr.take i) g = some t1 := (guarded_iff tr x g).1 hg i t1 hi
  have h2 : holder (tr.take j) g = some t2 := (guarded_iff tr x g).1 hg j t2 hj
  obtain ⟨k, hik, hkj, hk⟩ :=
    release_between hw h1 j (Nat.le_of_lt hij) (h2 ▸ fun h => hne (Option.some.inj h).symm)
  -- position `i` holds an access, not the release
  have hne' : i ≠ k := by
    rintro rfl
    rcases hi with hi | hi <;> rw [hi] at hk <;> cases hk
  obtain ⟨k', h1', h2', h3⟩ := acquire_between (holder_after_rel hk ▸ nofun) j hkj h2
  exact ⟨k, k', Nat.lt_of_le_of_ne hik hne', h1', h2', hk, h3⟩

theorem lockset_race_free {tr : List Ev} {x g i j t1 t2 : Nat}
    (hw : WellFormed tr) (hg : Guarded tr x g)
    (hi : accessAt tr i t1 x) (hj : accessAt tr j t2 x)
    (hij : i < j) (hne : t1 ≠ t2) :
    ∃ k, i < k ∧ k < j ∧ tr[k]? = some (.rel t1 g) :=
  let ⟨k, _, hik, hkk', hk'j, hk, _⟩ := lockset_happens_before hw hg hi hj hij hne
  ⟨k, hik, Nat.lt_trans hkk' hk'j, hk⟩

theorem sections_serial {tr : List Ev} {g i j t1 t2 : Nat}
    (hw : WellFormed tr)
    (hi : tr[i]? = some (.acq t1 g)) (hj : tr[j]? = some (.acq t2 g)) (hij : i < j) :
    ∃ k, i < k ∧ k < j ∧ tr[k]? = some (.rel t1 g) :=
  release_between hw (holder_after_acq hi) j hij (wf_acq hw hj ▸ nofun)

theorem isRel_iff {g : Nat} {o : Option Ev} : isRel g o = true ↔ ∃ t, o = some (.rel t g) := by
  unfold isRel
  split
  · next t l => simp
  · next h =>
    constructor
    · intro h'; cases h'
    · intro ⟨t, ht⟩; exact absurd ht (h t g)

theorem nextRelGo_eq_find (tr : List Ev) (g : Nat) (fuel k : Nat) :
    nextRelGo tr g fuel k = (List.range' k fuel).find? fun n => isRel g tr[n]? := by
  induction fuel generalizing k with
  | zero => rfl
  | succ fuel ih =>
    rw [nextRelGo, List.range'_succ, List.find?_cons, ih]
    cases isRel g tr[k]? <;> rfl

theorem nextRel_of_acq {tr : List Ev} {g i j t1 t2 : Nat}
    (hw : WellFormed tr)
    (hi : tr[i]? = some (.acq t1 g)) (hj : tr[j]? = some (.acq t2 g)) (hij : i < j) :
    ∃ k, nextRel tr g (i + 1) = some k ∧ i < k ∧ k < j ∧ tr[k]? = some (.rel t1 g) := by
  obtain ⟨k, hik, hkj, hk⟩ := sections_serial hw hi hj hij
  have hjl := lt_length_of_getElem? hj
  have hpk := isRel_iff.2 ⟨t1, hk⟩
  -- the search finds a release `k0 ≤ k`, with no release of `g` in between
  rw [nextRel, nextRelGo_eq_find]
  cases hn : (List.range' (i + 1) (tr.length - (i + 1))).find? fun n => isRel g tr[n]? with
  | none =>
    have := List.find?_range'_eq_none.1 hn k hik (by omega)
    simp [hpk] at this
  | some k0 =>
    obtain ⟨h3, hmem, h4⟩ := List.find?_range'_eq_some.1 hn
    have h1 : i + 1 ≤ k0 := (List.mem_range'_1.1 hmem).1
    have hk0 : k0 ≤ k := Nat.le_of_not_lt fun h => by simpa [hpk] using h4 k hik h
    refine ⟨k0, rfl, h1, by omega, ?_⟩
    -- it is `t1`'s own: `t1` holds `g` from `i + 1` until it releases, and nothing is released before `k0`
    obtain ⟨t', ht'⟩ := isRel_iff.1 h3
    by_cases htt : t' = t1
    · exact htt ▸ ht'
    · have hne : holder (tr.take k0) g ≠ some t1 := wf_rel hw ht' ▸ fun h => htt (Option.some.inj h)
      obtain ⟨n, hn1, hn2, hn3⟩ := release_between hw (holder_after_acq hi) k0 h1 hne
      simpa [isRel_iff.2 ⟨t1, hn3⟩] using h4 n hn1 hn2

theorem sectionAt_eq_some {tr : List Ev} {g i : Nat} {a : Section} :
    sectionAt tr g i = some a ↔ ∃ t, tr[i]? = some (.acq t g) ∧ a = ⟨t, i, nextRel tr g (i + 1)⟩ := by
  unfold sectionAt
  split
  · next t l h =>
    by_cases hl : l = g
    · subst hl; simp [h, eq_comm]
    · simp [hl, h]
  · next h => exact ⟨nofun, fun ⟨t, ht, _⟩ => absurd ht (h t g)⟩

theorem sections_ordered {tr : List Ev} (hw : WellFormed tr) (g : Nat) :
    (sections tr g).Pairwise fun a b =>
      ∃ k, a.stop = some k ∧ a.start < k ∧ k < b.start ∧ tr[k]? = some (.rel a.thread g) := by
  refine List.Pairwise.filterMap _ ?_ (List.pairwise_lt_range (n := tr.length))
  intro i j hij a ha b hb
  obtain ⟨t1, hi, rfl⟩ := sectionAt_eq_some.1 ha
  obtain ⟨t2, hj, rfl⟩ := sectionAt_eq_some.1 hb
  exact nextRel_of_acq hw hi hj hij

theorem mem_sections {tr : List Ev} {g i t : Nat} (h : tr[i]? = some (.acq t g)) :
    ⟨t, i, nextRel tr g (i + 1)⟩ ∈ sections tr g :=
  List.mem_filterMap.2 ⟨i, List.mem_range.2 (lt_length_of_getElem? h), sectionAt_eq_some.2 ⟨t, h, rfl⟩⟩

def demo : List Ev :=
  [.acq 1 0, .write 1 7, .rel 1 0, .acq 2 0, .read 2 7, .write 2 7, .rel 2 0]

example : WellFormed demo := by decide +kernel
example : Guarded demo 7 0 := by decide +kernel
example : accessAt demo 1 1 7 ∧ accessAt demo 5 2 7 := by decide +kernel
example : sections demo 0 = [⟨1, 0, some 2⟩, ⟨2, 3, some 6⟩] := by decide +kernel

example : ∃ k, 1 < k ∧ k < 5 ∧ demo[k]? = some (.rel 1 0) :=
  lockset_race_free (x := 7) (t2 := 2) (by decide +kernel) (by decide +kernel) (by decide +kernel) (by decide +kernel)
    (by decide +kernel) (by decide +kernel)

def demo2 : List Ev :=
  [.acq 1 0, .acq 2 5, .write 2 9, .write 1 7, .rel 1 0, .acq 2 0, .rel 2 5, .write 2 7, .rel 2 0]

example : WellFormed demo2 ∧ Guarded demo2 7 0 ∧ Guarded demo2 9 5 := by decide +kernel

example : ¬ WellFormed [.acq 1 0, .acq 2 0] := by decide +kernel
example : ¬ Guarded [.acq 1 0, .write 1 7, .rel 1 0, .write 2 7] 7 0 := by decide +kernel

end OutlineModel.LockSet

#print axioms OutlineModel.LockSet.lockset_race_free
#print axioms OutlineModel.LockSet.lockset_happens_before
#print axioms OutlineModel.LockSet.sections_serial
#print axioms OutlineModel.LockSet.sections_ordered
#print axioms OutlineModel.LockSet.wellFormed_iff
#print axioms OutlineModel.LockSet.guarded_iff
