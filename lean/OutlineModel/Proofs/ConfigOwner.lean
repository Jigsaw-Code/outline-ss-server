/-
For C09: who owns a listener key and which id a client is attributed to, in terms of the RAW configuration
(Model/Config), and that a successfully loaded configuration serves exactly that: `load_serves_exactly_configured` is the
entry point (`authOn` of the loaded table = `firstMatch` over `ownerKeys`), `owner_is_own_service` says who the owner is;
`authOn_first`, `authOn_eq_none_iff` characterise `authOn` on any table.  `plan_authOn` and `served_groups` are the
engine under them.
-/
import OutlineModel.Proofs.Config
import OutlineModel.Proofs.ListLemmas

namespace OutlineModel.Config

def firstMatch (canon : String → Option Nat) (keys : List Key) (ck : ClientKey) : Option String :=
  (keys.find? fun k => canon k.cipher == some ck.1 && k.secret == ck.2).map (·.id)

/-- a legacy port first: that is the order of the plan -/
def ownerKeys (c : Cfg) (lk : String) : Option (List Key) :=
  match (legacyPorts c.legacy).find? (fun p => lk == s!"tcp/:{p}" || lk == s!"udp/:{p}") with
  | some p => some ((c.legacy.filter (·.2 == p)).map (·.1))
  | none => (c.services.find? (fun s => s.listeners.any (fun l => lkey l == lk))).map (·.keys)

theorem firstMatch_nil (canon : String → Option Nat) (ck : ClientKey) :
    firstMatch canon [] ck = none := rfl

theorem find?_cons_map {α β : Type} {p : α → Bool} {P : Prop} [Decidable P] {a : α} (h : p a = true ↔ P)
    (l : List α) (f : α → β) :
    ((a :: l).find? p).map f = if P then some (f a) else (l.find? p).map f := by
  rw [List.find?_cons_ite h, apply_ite (Option.map f)]
  rfl

theorem firstMatch_cons (canon : String → Option Nat) (k : Key) (rest : List Key) (ck : ClientKey) :
    firstMatch canon (k :: rest) ck =
      if canon k.cipher = some ck.1 ∧ k.secret = ck.2 then some k.id else firstMatch canon rest ck :=
  find?_cons_map (by simp) rest _

theorem firstMatch_isSome (canon : String → Option Nat) (keys : List Key) (ck : ClientKey) :
    (firstMatch canon keys ck).isSome = true ↔ ∃ k ∈ keys, canon k.cipher = some ck.1 ∧ k.secret = ck.2 := by
  simp only [firstMatch, Option.isSome_map, List.find?_isSome, Bool.and_eq_true, beq_iff_eq]

theorem find?_entry_cons (canon : String → Option Nat) (k : Key) (c : Nat) (hc : canon k.cipher = some c)
    (l : List (String × ClientKey)) (ck : ClientKey) :
    (((k.id, (c, k.secret)) :: l).find? (·.2 == ck)).map (·.1) =
      if canon k.cipher = some ck.1 ∧ k.secret = ck.2 then some k.id else (l.find? (·.2 == ck)).map (·.1) :=
  find?_cons_map (by simp [hc, Prod.ext_iff]) l _

theorem dedupKeys_go_find (canon : String → Option Nat) (ck : ClientKey) :
    ∀ (keys : List Key) (seen : List (String × String)) (ks : List (String × ClientKey)),
      (∀ p ∈ seen, ¬ (canon p.1 = some ck.1 ∧ p.2 = ck.2)) →
      dedupKeys.go canon seen keys = some ks →
      (ks.find? (·.2 == ck)).map (·.1) = firstMatch canon keys ck := by
  intro keys
  induction keys with
  | nil =>
    intro seen ks _ h
    cases h
    rfl
  | cons k rest ih =>
    intro seen ks hseen h
    rw [dedupKeys.go] at h
    rw [firstMatch_cons]
    split at h
    · rename_i hc
      rw [if_neg (hseen (k.cipher, k.secret) (by simpa using hc))]
      exact ih seen ks hseen h
    · split at h
      · cases h
      · rename_i c hcan
        obtain ⟨l, hl, rfl⟩ := Option.map_eq_some_iff.1 h
        rw [find?_entry_cons canon k c hcan]
        split
        · rfl
        · rename_i hm
          refine ih _ l (fun p hp => ?_) hl
          rcases List.mem_cons.1 hp with rfl | hp
          · exact hm
          · exact hseen p hp

theorem dedupKeys_find (canon : String → Option Nat) (keys : List Key) (ks : List (String × ClientKey))
    (h : dedupKeys canon keys = some ks) (ck : ClientKey) :
    (ks.find? (·.2 == ck)).map (·.1) = firstMatch canon keys ck :=
  dedupKeys_go_find canon ck keys [] ks (by simp) h

theorem legacyKeys_find (canon : String → Option Nat) (legacy : List (Key × Nat)) (p : Nat)
    (ks : List (String × ClientKey)) (h : legacyKeys canon legacy p = some ks) (ck : ClientKey) :
    (ks.find? (·.2 == ck)).map (·.1) = firstMatch canon ((legacy.filter (·.2 == p)).map (·.1)) ck := by
  unfold legacyKeys at h
  generalize legacy.filter (·.2 == p) = l at h ⊢
  induction l generalizing ks with
  | nil =>
    cases h
    rfl
  | cons x rest ih =>
    simp only [List.mapM_cons, Option.bind_eq_bind, Option.bind_eq_some_iff, Option.map_eq_some_iff,
      Option.pure_def, Option.some.injEq] at h
    obtain ⟨_, ⟨c, hcan, rfl⟩, l, hr, rfl⟩ := h
    rw [List.map_cons, firstMatch_cons, find?_entry_cons canon x.1 c hcan, ih l hr]

/-- The plan is made of groups: a source `x` (a legacy port, a service) with raw keys `R x` contributes its key list `K x`
    under each of the names `g y`, `y ∈ G x`.  When no entry is rejected, the first served entry named `lk` is one of the
    first source that has `lk` among its names, and it attributes a client key as the raw keys of that source do. -/
theorem served_groups {α β : Type} (canon : String → Option Nat) (lk : String) (ck : ClientKey)
    (K : α → Option (List (String × ClientKey))) (R : α → List Key) (G : α → List β) (g : β → String)
    (hKR : ∀ x ks, K x = some ks → (ks.find? (·.2 == ck)).map (·.1) = firstMatch canon (R x) ck)
    (P : α → Bool) (hP : ∀ x, P x = (G x).any fun y => g y == lk)
    (F : α → List PlanEntry) (hF : ∀ x, F x = (K x).elim [none] fun ks => (G x).map fun y => some (g y, ks)) :
    ∀ (l : List α), (l.flatMap F).all Option.isSome = true →
      (((l.flatMap F).filterMap id).find? (·.1 == lk)).map (fun e => (e.2.find? (·.2 == ck)).map (·.1)) =
        (l.find? P).map fun x => firstMatch canon (R x) ck := by
  intro l
  induction l with
  | nil => intro _; rfl
  | cons x r ih =>
    intro h
    rw [List.flatMap_cons, List.all_append, Bool.and_eq_true, hF] at h
    rw [List.flatMap_cons, List.filterMap_append, List.find?_append, Option.map_or, ih h.2, List.find?_cons, hP, hF]
    cases hK : K x with
    | none => rw [hK] at h; cases h.1
    | some ks =>
      -- the entries of `x` all carry `ks`: whether one of them is named `lk` is all that matters
      have hx : ((((G x).map fun y => some (g y, ks)).filterMap id).find? (·.1 == lk)).map
            (fun e => (e.2.find? (·.2 == ck)).map (·.1)) =
          if (G x).any (fun y => g y == lk) then some (firstMatch canon (R x) ck) else none := by
        rw [← hKR x ks hK]
        induction G x with
        | nil => rfl
        | cons y ys ihy =>
          rw [List.map_cons, List.filterMap_cons_some (f := id) rfl, List.find?_cons, List.any_cons]
          cases g y == lk
          · exact ihy
          · rfl
      rw [Option.elim_some, hx]
      cases (G x).any fun y => g y == lk <;> rfl

theorem authOn_eq (srv : Serving) (lk : String) (ck : ClientKey) :
    authOn srv lk ck = ((srv.find? (·.1 == lk)).map fun e => (e.2.find? (·.2 == ck)).map (·.1)).join := by
  unfold authOn
  cases List.find? (fun x => x.1 == lk) srv <;> rfl

theorem plan_authOn (canon : String → Option Nat) (c : Cfg)
    (hall : (plan canon c).all Option.isSome = true) (lk : String) (ck : ClientKey) :
    authOn ((plan canon c).filterMap id) lk ck =
      match ownerKeys c lk with
      | none => none
      | some keys => firstMatch canon keys ck := by
  unfold plan at hall ⊢
  by_cases hany : (c.legacy.any fun k => (canon k.1.cipher).isNone) = true
  · rw [if_pos hany] at hall
    cases hall
  · rw [if_neg hany, List.all_append, Bool.and_eq_true] at hall
    rw [if_neg hany, authOn_eq]
    dsimp only
    rw [List.filterMap_append, List.find?_append, Option.map_or,
      served_groups canon lk ck (legacyKeys canon c.legacy) (fun p => (c.legacy.filter (·.2 == p)).map (·.1))
        (fun p => [s!"tcp/:{p}", s!"udp/:{p}"]) id (fun p ks h => legacyKeys_find canon c.legacy p ks h ck)
        (fun p => lk == s!"tcp/:{p}" || lk == s!"udp/:{p}")
        (fun p => by rw [List.any_cons, List.any_cons, List.any_nil, Bool.or_false, id, id, BEq.comm (a := lk), BEq.comm (a := lk)])
        _ (fun p => by cases legacyKeys canon c.legacy p <;> rfl) _ hall.1,
      served_groups canon lk ck (fun s => dedupKeys canon s.keys) Svc.keys Svc.listeners lkey
        (fun s ks h => dedupKeys_find canon s.keys ks h ck) _ (fun _ => rfl)
        _ (fun s => by cases dedupKeys canon s.keys <;> rfl) _ hall.2]
    unfold ownerKeys
    cases (legacyPorts c.legacy).find? (fun p => lk == s!"tcp/:{p}" || lk == s!"udp/:{p}") with
    | some p => rfl
    | none => cases c.services.find? (fun s => s.listeners.any (fun l => lkey l == lk)) <;> rfl

theorem load_serves_exactly_configured (canon : String → Option Nat) (addrOK : String → Bool)
    (s : Server) (c : Cfg) (fault : Fault)
    (hok : (load canon addrOK s c fault).2.1 = true) (lk : String) (ck : ClientKey) :
    authOn (load canon addrOK s c fault).1.cur lk ck =
      match ownerKeys c lk with
      | none => none
      | some keys => firstMatch canon keys ck := by
  rw [load_ok_cur canon addrOK s c fault hok]
  exact plan_authOn canon c (load_ok_valid canon addrOK s c fault hok).2 lk ck

theorem validate_nodup (addrOK : String → Bool) (c : Cfg) (h : validate addrOK c = true) :
    ((c.services.flatMap (·.listeners)).map lkey).Nodup :=
  ((validate_iff addrOK c).1 h).2

theorem find_own_service (lk : String) :
    ∀ (svcs : List Svc), ((svcs.flatMap (·.listeners)).map lkey).Nodup →
    ∀ (s : Svc), s ∈ svcs → (∃ l ∈ s.listeners, lkey l = lk) →
    svcs.find? (fun s => s.listeners.any (fun l => lkey l == lk)) = some s := by
  intro svcs
  induction svcs with
  | nil => exact fun _ s hs => nomatch hs
  | cons s0 r ih =>
    intro hnd s hs ⟨l, hl, hlk⟩
    rw [List.flatMap_cons, List.map_append, List.nodup_append] at hnd
    rw [List.find?_cons]
    rcases List.mem_cons.1 hs with rfl | hs'
    · have h0 : s.listeners.any (fun l => lkey l == lk) = true := List.any_eq_true.2 ⟨l, hl, beq_iff_eq.2 hlk⟩
      rw [h0]
    · -- a listener of `s0` with key `lk` would repeat the key of `l`, which lies further on
      have h0 : s0.listeners.any (fun l => lkey l == lk) = false :=
        List.any_eq_false.2 fun l0 hl0 e => hnd.2.2 _ (List.mem_map_of_mem hl0) _
          (List.mem_map_of_mem (List.mem_flatMap.2 ⟨s, hs', hl⟩)) ((beq_iff_eq.1 e).trans hlk.symm)
      rw [h0]
      exact ih hnd.2.1 s hs' ⟨l, hl, hlk⟩

theorem owner_is_own_service (c : Cfg)
    (hnd : ((c.services.flatMap (·.listeners)).map lkey).Nodup)
    (hleg : ∀ p ∈ legacyPorts c.legacy, ∀ s ∈ c.services, ∀ l ∈ s.listeners,
      lkey l ≠ s!"tcp/:{p}" ∧ lkey l ≠ s!"udp/:{p}")
    (s : Svc) (hs : s ∈ c.services) (l : Listener) (hl : l ∈ s.listeners) :
    ownerKeys c (lkey l) = some s.keys := by
  unfold ownerKeys
  have hnone : (legacyPorts c.legacy).find?
      (fun p => lkey l == s!"tcp/:{p}" || lkey l == s!"udp/:{p}") = none := by
    apply List.find?_eq_none.2
    intro p hp hb
    obtain ⟨h1, h2⟩ := hleg p hp s hs l hl
    simp only [Bool.or_eq_true, beq_iff_eq] at hb
    exact hb.elim h1 h2
  rw [hnone, find_own_service (lkey l) c.services hnd s hs ⟨l, hl, rfl⟩]
  rfl

theorem find?_key_eq_some {α κ : Type} [BEq κ] [LawfulBEq κ] (f : α → κ) (k : κ) (l : List α) (e : α) :
    l.find? (f · == k) = some e ↔ f e = k ∧ ∃ pre post, l = pre ++ e :: post ∧ ∀ x ∈ pre, f x ≠ k := by
  simp only [List.find?_eq_some_iff_append, beq_iff_eq, Bool.not_eq_eq_eq_not, Bool.not_true, beq_eq_false_iff_ne,
    ne_eq, exists_and_right]

theorem authOn_first (srv : Serving) (lk : String) (ck : ClientKey) (id : String) :
    authOn srv lk ck = some id ↔
      ∃ (pre : Serving) (keys : List (String × ClientKey)) (post : Serving)
        (kpre kpost : List (String × ClientKey)),
        srv = pre ++ (lk, keys) :: post ∧ (∀ e ∈ pre, e.1 ≠ lk) ∧
        keys = kpre ++ (id, ck) :: kpost ∧ (∀ k ∈ kpre, k.2 ≠ ck) := by
  simp only [authOn_eq, Option.join_eq_some_iff, Option.map_eq_some_iff, find?_key_eq_some]
  constructor
  · rintro ⟨⟨_, keys⟩, ⟨rfl, pre, post, hsrv, hpre⟩, ⟨_, _⟩, ⟨rfl, kpre, kpost, hkeys, hkpre⟩, rfl⟩
    exact ⟨pre, keys, post, kpre, kpost, hsrv, hpre, hkeys, hkpre⟩
  · rintro ⟨pre, keys, post, kpre, kpost, hsrv, hpre, hkeys, hkpre⟩
    exact ⟨(lk, keys), ⟨rfl, pre, post, hsrv, hpre⟩, (id, ck), ⟨rfl, kpre, kpost, hkeys, hkpre⟩, rfl⟩

theorem authOn_eq_none_iff (srv : Serving) (lk : String) (ck : ClientKey) :
    authOn srv lk ck = none ↔
      ∀ e, srv.find? (·.1 == lk) = some e → ∀ k ∈ e.2, k.2 ≠ ck := by
  rw [authOn_eq]
  cases srv.find? (·.1 == lk) with
  | none => exact ⟨fun _ _ => nofun, fun _ => rfl⟩
  | some e =>
    simp only [Option.map_some, Option.join_some, Option.map_eq_none_iff, List.find?_eq_none, beq_iff_eq,
      Option.some.injEq, forall_eq', ne_eq]

theorem authOn_none_of_not_listed (srv : Serving) (lk : String) (ck : ClientKey)
    (h : (∀ e ∈ srv, e.1 ≠ lk) ∨ (∀ e ∈ srv, e.1 = lk → ∀ k ∈ e.2, k.2 ≠ ck)) :
    authOn srv lk ck = none := by
  rw [authOn_eq_none_iff]
  intro e he
  obtain ⟨hm, hlk⟩ := List.of_find?_key_eq_some Prod.fst he
  rcases h with h | h
  · exact absurd hlk (h e hm)
  · exact h e hm hlk

section Examples

def ownCanon : String → Option Nat :=
  fun s => if s == "aes" || s == "AES" then some 0 else if s == "chacha" then some 1 else none

def ownSvc1 : Svc :=
  { listeners := [⟨true, ":9000"⟩, ⟨false, ":9000"⟩],
    keys := [⟨"a", "aes", "s1"⟩, ⟨"a2", "AES", "s1"⟩, ⟨"shared1", "chacha", "sh"⟩] }
def ownSvc2 : Svc :=
  { listeners := [⟨true, ":9001"⟩],
    keys := [⟨"b", "aes", "s2"⟩, ⟨"b2", "aes", "s2"⟩, ⟨"shared2", "chacha", "sh"⟩] }

/-- two services sharing the (chacha, "sh") key under different ids; service 1 lists (cipher 0, "s1")
    twice under two spellings, service 2 lists a raw duplicate; two legacy ports -/
def ownCfg : Cfg :=
  { services := [ownSvc1, ownSvc2],
    legacy := [(⟨"l1", "aes", "ls"⟩, 9100), (⟨"l3", "aes", "s1"⟩, 9101), (⟨"l2", "AES", "ls"⟩, 9100)] }

def ownSrv : Server := (load ownCanon exAddrOK Server.init ownCfg .none).1

example : (load ownCanon exAddrOK Server.init ownCfg .none).2.1 = true := by decide +kernel
example : (plan ownCanon ownCfg).all Option.isSome = true := by decide +kernel
example : ownSrv.cur.map (·.1) =
    ["tcp/:9100", "udp/:9100", "tcp/:9101", "udp/:9101", "tcp/:9000", "udp/:9000", "tcp/:9001"] := by decide +kernel
example : ownerKeys ownCfg "tcp/:9000" = some ownSvc1.keys := by decide +kernel
example : ownerKeys ownCfg "udp/:9000" = some ownSvc1.keys := by decide +kernel
example : ownerKeys ownCfg "tcp/:9001" = some ownSvc2.keys := by decide +kernel
example : ownerKeys ownCfg "udp/:9100" = some [⟨"l1", "aes", "ls"⟩, ⟨"l2", "AES", "ls"⟩] := by decide +kernel
example : ownerKeys ownCfg "udp/:9001" = none := by decide +kernel
-- the raw duplicate is dropped, the re-spelled one is kept
example : dedupKeys ownCanon ownSvc2.keys = some [("b", (0, "s2")), ("shared2", (1, "sh"))] := by decide +kernel
example : dedupKeys ownCanon ownSvc1.keys =
    some [("a", (0, "s1")), ("a2", (0, "s1")), ("shared1", (1, "sh"))] := by decide +kernel
example : authOn ownSrv.cur "tcp/:9001" (0, "s2") = some "b" := by decide +kernel
example : firstMatch ownCanon ownSvc2.keys (0, "s2") = some "b" := by decide +kernel
example : authOn ownSrv.cur "tcp/:9000" (0, "s2") = none := by decide +kernel
example : firstMatch ownCanon ownSvc1.keys (0, "s2") = none := by decide +kernel
example : authOn ownSrv.cur "tcp/:9000" (1, "sh") = some "shared1" := by decide +kernel
example : authOn ownSrv.cur "udp/:9000" (1, "sh") = some "shared1" := by decide +kernel
example : authOn ownSrv.cur "tcp/:9001" (1, "sh") = some "shared2" := by decide +kernel
example : authOn ownSrv.cur "tcp/:9000" (0, "s1") = some "a" := by decide +kernel
example : firstMatch ownCanon ownSvc1.keys (0, "s1") = some "a" := by decide +kernel
example : authOn ownSrv.cur "udp/:9100" (0, "ls") = some "l1" := by decide +kernel
example : authOn ownSrv.cur "tcp/:9101" (0, "s1") = some "l3" := by decide +kernel
example : authOn ownSrv.cur "tcp/:9100" (0, "s1") = none := by decide +kernel
example : authOn ownSrv.cur "tcp/:9000" (0, "ls") = none := by decide +kernel
-- the hypotheses of `owner_is_own_service` hold here
example : ((ownCfg.services.flatMap (·.listeners)).map lkey).Nodup := by decide +kernel
example : ∀ p ∈ legacyPorts ownCfg.legacy, ∀ s ∈ ownCfg.services, ∀ l ∈ s.listeners,
    lkey l ≠ s!"tcp/:{p}" ∧ lkey l ≠ s!"udp/:{p}" := by decide +kernel
example (lk : String) (ck : ClientKey) :
    authOn ownSrv.cur lk ck =
      match ownerKeys ownCfg lk with
      | none => none
      | some keys => firstMatch ownCanon keys ck :=
  load_serves_exactly_configured ownCanon exAddrOK Server.init ownCfg .none (by decide +kernel) lk ck
example : ownerKeys ownCfg "udp/:9000" = some ownSvc1.keys :=
  owner_is_own_service ownCfg (validate_nodup exAddrOK ownCfg (by decide +kernel)) (by decide +kernel)
    ownSvc1 (by decide +kernel) ⟨false, ":9000"⟩ (by decide +kernel)

end Examples

end OutlineModel.Config
