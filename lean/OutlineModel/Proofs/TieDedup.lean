import OutlineModel.Proofs.GoRT
import OutlineModel.Proofs.TieMisc
import OutlineModel.Gen.Code
import OutlineModel.Model.Config
/-
Tie for the translated newCipherListFromConfig (cmd/outline-ss-server/main.go): which keys of a service end up in its key
list, in which order, and when the whole service is refused.  `shadowsocks.NewEncryptionKey`, `service.NewCipherList` and
the salt generators are parameters; the call `ciphers.Update(list)` on the (interface) key list is in the function's
effect log.
-/
namespace OutlineModel.Tie.Dedup
open OutlineModel OutlineModel.GoRT OutlineModel.Config
open OutlineModel.Gen

section
variable (saltSize : Opaque "shadowsocks.EncryptionKey" → Int)
  (newList : Opaque "service.CipherList")
  (newKey : String → String → Opaque "shadowsocks.EncryptionKey" × Option String)
  (newGen : String → Opaque "service.ServerSaltGenerator") (rnd : Opaque "service.ServerSaltGenerator")

/-- `service.MakeCipherEntry(kc.ID, cryptoKey, kc.Secret)` in closed form (`Tie.Misc.makeCipherEntry_eq`) -/
def entryOf (kc : Code.KeyConfig) : Code.CipherEntry :=
  ⟨kc.ID, (newKey kc.Cipher kc.Secret).1,
   (if saltSize (newKey kc.Cipher kc.Secret).1 - 4 ≥ 16 then newGen kc.Secret else rnd), ⟨0⟩⟩

def ckOf (kc : Code.KeyConfig) : Code.cipherKey := { cipher := kc.Cipher, secret := kc.Secret }

/-- the scan the loop performs: `seen` are the (cipher, secret) pairs met so far, `acc` the list built so far;
    `none` = a first occurrence whose key cannot be created -/
def scan : List Code.cipherKey → List (ListElem Code.CipherEntry) → List Code.KeyConfig →
    Option (List (ListElem Code.CipherEntry))
  | _, acc, [] => some acc
  | seen, acc, kc :: rest =>
    if ckOf kc ∈ seen then scan seen acc rest
    else if (newKey kc.Cipher kc.Secret).2 ≠ none then none
    else scan (ckOf kc :: seen) (pushBack acc (entryOf saltSize newKey newGen rnd kc)) rest

/-- one turn of the loop as a `loopE` step, on the list built so far and the map of the pairs met so far; `errR` is what
    the function returns for a key that cannot be created -/
def step {R : Type} (errR : R) (kc : Code.KeyConfig) (s : List (ListElem Code.CipherEntry) × GoMap Code.cipherKey Bool) :
    Except (R × List (ListElem Code.CipherEntry) × GoMap Code.cipherKey Bool) (List (ListElem Code.CipherEntry) × GoMap Code.cipherKey Bool) :=
  if s.2.contains (ckOf kc) then .ok s
  else if (newKey kc.Cipher kc.Secret).2 ≠ none then .error (errR, s)
  else .ok (pushBack s.1 (entryOf saltSize newKey newGen rnd kc), s.2.insert (ckOf kc) true)

/-- the loop on the map is the scan on the map's keys -/
theorem loopE_eq_scan {R : Type} (errR : R) : ∀ (keys : List Code.KeyConfig) (acc : List (ListElem Code.CipherEntry))
    (m : GoMap Code.cipherKey Bool),
    match scan saltSize newKey newGen rnd m.keys acc keys with
    | none => (loopE (step saltSize newKey newGen rnd errR) keys (acc, m)).1 = some errR
    | some l => (loopE (step saltSize newKey newGen rnd errR) keys (acc, m)).1 = none ∧
        (loopE (step saltSize newKey newGen rnd errR) keys (acc, m)).2.1 = l := by
  intro keys
  induction keys with
  | nil => intro acc m; exact ⟨rfl, rfl⟩
  | cons kc rest ih =>
    intro acc m
    simp only [loopE, step, scan, GoMap.contains_eq, decide_eq_true_eq]
    by_cases hin : ckOf kc ∈ m.keys
    · simp only [hin, if_true]; exact ih acc m
    · by_cases he : (newKey kc.Cipher kc.Secret).2 ≠ none
      · simp [hin, he]
      · simp only [hin, he, if_false]
        rw [← GoMap.keys_insert_absent m (ckOf kc) true hin]
        exact ih _ _

def updateEff (l : List (ListElem Code.CipherEntry)) : Eff :=
  { name := "CipherList.Update", args := [],
    vals := [[Atom.tok newList.val], l.flatMap (fun x => [Atom.tok x.id] ++ Code.CipherEntry.atoms x.Value)] }

/-- **newCipherListFromConfig**: never panics; the keys of the service are taken in file order, a key whose (cipher name,
    secret) pair was already met is skipped BEFORE anything else is done with it, the first key that cannot be created
    refuses the whole service (no list, nothing installed), otherwise ONE `Update` installs the entries built, in order -/
theorem newCipherList_eq (config : Code.ServiceConfig) :
    Code.newCipherListFromConfig saltSize newList newKey newGen rnd config =
      some (match scan saltSize newKey newGen rnd [] [] config.Keys with
        | none => (⟨0⟩, some "failed to create encyption key for key %v: %w", [])
        | some l => (newList, none, [updateEff newList l])) := by
  unfold Code.newCipherListFromConfig
  simp only [Option.bind_eq_bind]
  rw [forIn_eq_loopE (step saltSize newKey newGen rnd (⟨0⟩, some "failed to create encyption key for key %v: %w", []))]
  · have h := loopE_eq_scan saltSize newKey newGen rnd
      ((⟨0⟩, some "failed to create encyption key for key %v: %w", []) : Opaque "service.CipherList" × Option String × List Eff)
      config.Keys [] GoMap.empty
    simp only [GoMap.keys_empty] at h
    cases hs : scan saltSize newKey newGen rnd [] [] config.Keys <;> simp only [hs] at h <;> simp [h, updateEff]
  · intro kc _ s
    obtain ⟨acc, m⟩ := s
    by_cases hin : (⟨kc.Cipher, kc.Secret⟩ : Code.cipherKey) ∈ m.keys
    · simp [step, ckOf, hin]
    · by_cases he : (newKey kc.Cipher kc.Secret).2 ≠ none
      · simp [step, ckOf, hin, he]
      · simp [step, ckOf, hin, he, Tie.Misc.makeCipherEntry_eq, entryOf]

def absK (kc : Code.KeyConfig) : Key := { id := kc.ID, cipher := kc.Cipher, secret := kc.Secret }
def pairOf (ck : Code.cipherKey) : String × String := (ck.cipher, ck.secret)

theorem contains_pairs (seen : List Code.cipherKey) (kc : Code.KeyConfig) :
    (seen.map pairOf).contains (kc.Cipher, kc.Secret) = decide (ckOf kc ∈ seen) := by
  have h : ∀ x : Code.cipherKey, ((kc.Cipher, kc.Secret) == pairOf x) = (ckOf kc == x) :=
    fun ⟨c, s⟩ => by rw [Bool.eq_iff_iff]; simp [pairOf, ckOf]
  rw [List.contains_map, ← List.contains_eq_mem, List.contains_eq_any_beq]
  simp only [h]

/-- **against the model**: when key creation fails exactly for the cipher names the model's `canon` rejects, the ids of the
    entries installed — and whether the service is refused — are the model's `dedupKeys`: first occurrence of each raw
    (cipher name, secret) pair, in file order -/
theorem scan_dedup (canon : String → Option Nat)
    (hcanon : ∀ c s, (newKey c s).2 = none ↔ (canon c).isSome = true) :
    ∀ (keys : List Code.KeyConfig) (seen : List Code.cipherKey) (acc : List (ListElem Code.CipherEntry)),
      (scan saltSize newKey newGen rnd seen acc keys).map (fun l => l.map (·.Value.ID)) =
        (dedupKeys.go canon (seen.map pairOf) (keys.map absK)).map (fun l => acc.map (·.Value.ID) ++ l.map (·.1)) := by
  intro keys
  induction keys with
  | nil => intro seen acc; simp [scan, dedupKeys.go]
  | cons kc rest ih =>
    intro seen acc
    simp only [scan, List.map_cons, dedupKeys.go, absK, contains_pairs]
    by_cases hin : ckOf kc ∈ seen
    · simp only [hin, if_true, decide_true]
      exact ih seen acc
    · simp only [hin, if_false, decide_false, Bool.false_eq_true]
      cases hc : canon kc.Cipher with
      | none =>
        have : (newKey kc.Cipher kc.Secret).2 ≠ none := fun h => by simpa [hc] using (hcanon _ _).1 h
        simp [this]
      | some cid =>
        have : (newKey kc.Cipher kc.Secret).2 = none := (hcanon _ _).2 (by rw [hc]; rfl)
        simp only [this, ne_eq, not_true_eq_false, if_false]
        rw [ih (ckOf kc :: seen) (pushBack acc (entryOf saltSize newKey newGen rnd kc)), Option.map_map]
        congr 1
        funext l
        simp [pushBack, entryOf]

end
end OutlineModel.Tie.Dedup
