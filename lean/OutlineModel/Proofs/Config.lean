/-
Configuration loading and hot reload (Model/Config), for C09, C10 and C11.

`startAll_spec` and `releaseAll_eq` say what the two phases of `load` compute; `load_spec` puts them together into
one equation for `load`, and everything else about a single load is read off it.  The manager is a multiset of
handles throughout: no `Nodup` hypothesis is needed anywhere.

"Everything started iff the Bool is true" is stated in `startAll_spec` as "the un-started remainder `rest` of the plan
is empty iff the Bool is true", because `started = plan.filterMap id` alone does NOT imply success (counterexample
`plan = [none]`: nothing is started, `filterMap id = []`, yet the Bool is `false`; see the `example` after it).
-/
import OutlineModel.Model.Config

namespace List

section eraseDups
variable {α : Type _} [BEq α]

theorem eraseDups_length_le : ∀ (l : List α), l.eraseDups.length ≤ l.length
  | [] => by simp
  | a :: as => by
    have h1 := eraseDups_length_le (as.filter fun b => !b == a)
    have h2 := length_filter_le (fun b => !b == a) as
    rw [eraseDups_cons, length_cons, length_cons]
    omega
termination_by l => l.length
decreasing_by
  have := length_filter_le (fun b => !b == a) as
  simp only [length_cons]; omega

variable [LawfulBEq α]

theorem eraseDups_length_eq_iff : ∀ {l : List α}, l.eraseDups.length = l.length ↔ l.Nodup
  | [] => by simp
  | a :: as => by
    have h1 := eraseDups_length_le (as.filter fun b => !b == a)
    have h2 := length_filter_le (fun b => !b == a) as
    have hf : as.filter (fun b => !b == a) = as ↔ a ∉ as := by
      rw [filter_eq_self]
      exact ⟨fun h ha => by simpa using h a ha, fun ha b hb => by simpa using fun e : b = a => ha (e ▸ hb)⟩
    rw [eraseDups_cons, length_cons, length_cons, nodup_cons, Nat.add_right_cancel_iff, ← hf]
    constructor
    · intro h
      have hfe : as.filter (fun b => !b == a) = as := filter_eq_self.2 (length_filter_eq_length_iff.1 (by omega))
      rw [hfe] at h
      exact ⟨hfe, eraseDups_length_eq_iff.1 h⟩
    · rintro ⟨hfe, has⟩
      rw [hfe]
      exact eraseDups_length_eq_iff.2 has

end eraseDups

end List

namespace OutlineModel.Config

abbrev PlanEntry := Option (String × List (String × ClientKey))

def Consistent (s : Server) : Prop := s.mgr.Perm (s.cur.map (·.1))

def accepts (canon : String → Option Nat) (addrOK : String → Bool) (c : Cfg) (fault : Fault) : Bool :=
  !(fault == .read) && validate addrOK c && (plan canon c).all Option.isSome &&
    (match fault with
     | .bind k => decide ((plan canon c).length ≤ k)
     | _ => true)

/-- `validate` looks at the listeners of the services only: that a legacy port and a service listener do not claim the
    same address is left to the environment (a second bind of it is the `.bind` fault) -/
theorem validate_iff (addrOK : String → Bool) (c : Cfg) :
    validate addrOK c = true ↔
      (∀ l ∈ c.services.flatMap (·.listeners), addrOK l.addr = true) ∧
      ((c.services.flatMap (·.listeners)).map lkey).Nodup := by
  rw [← List.eraseDups_length_eq_iff, List.length_map]
  simp only [validate, Bool.and_eq_true, List.all_eq_true, beq_iff_eq]

theorem startAll_spec (fault : Fault) (pl : List PlanEntry) :
    ∀ (i : Nat) (m : Mgr) (acc : Serving) (tr : List Mgr),
    ∃ (started : Serving) (rest : List PlanEntry) (trNew : List Mgr),
      pl = started.map some ++ rest ∧
      startAll fault i pl m acc tr =
        (rest.isEmpty, (started.map (·.1)).reverse ++ m, acc.reverse ++ started, tr ++ trNew) ∧
      (∀ m' ∈ trNew, m <:+ m') ∧
      -- this call numbers its acquisitions `i … i + |pl| - 1`: a bind fault stops it iff its index is one of them
      rest.isEmpty = (pl.all Option.isSome &&
        (match fault with
         | .bind k => decide (k < i ∨ i + pl.length ≤ k)
         | _ => true)) := by
  induction pl with
  | nil =>
    intro i m acc tr
    refine ⟨[], [], [], rfl, by simp [startAll], by simp, ?_⟩
    cases fault <;> simp
    omega
  | cons e r ih =>
    intro i m acc tr
    match e with
    | none => exact ⟨[], none :: r, [], rfl, by simp [startAll], by simp, by simp⟩
    | some (lk, ks) =>
      by_cases hf : fault = Fault.bind i
      · exact ⟨[], some (lk, ks) :: r, [], rfl, by simp [startAll, hf], by simp, by simp [hf]⟩
      · obtain ⟨st, rest, trN, hpl, heq, hsuf, hok⟩ :=
          ih (i + 1) (lk :: m) ((lk, ks) :: acc) (tr ++ [lk :: m])
        refine ⟨(lk, ks) :: st, rest, (lk :: m) :: trN, by simp [hpl], by simp [startAll, hf, heq], ?_, ?_⟩
        · intro m' hm'
          rcases List.mem_cons.1 hm' with rfl | h
          · exact List.suffix_cons _ _
          · exact (List.suffix_cons _ _).trans (hsuf m' h)
        · rw [hok]
          cases fault with
          | bind k =>
            have : k ≠ i := fun h => hf (h ▸ rfl)
            simp only [List.all_cons, Option.isSome_some, Bool.true_and, List.length_cons]
            congr 1
            apply decide_eq_decide.2
            omega
          | _ => simp

/-- why "all started iff the Bool is true" needs the remainder formulation -/
example : (startAll .none 0 [none] [] [] []).1 = false ∧
    (startAll .none 0 [none] [] [] []).2.2.1 = ([none] : List PlanEntry).filterMap id := by decide +kernel

theorem foldl_erase_sublist (hs : List String) : ∀ (m : Mgr), (hs.foldl List.erase m).Sublist m := by
  induction hs with
  | nil => exact fun m => List.Sublist.refl m
  | cons h r ih => exact fun m => (ih (m.erase h)).trans List.erase_sublist

theorem foldl_erase_perm (hs : List String) : ∀ (m rest : List String),
    (hs ++ rest).Perm m → (hs.foldl List.erase m).Perm rest := by
  induction hs with
  | nil => exact fun m rest h => h.symm
  | cons h r ih =>
    intro m rest hp
    exact ih _ _ (by simpa using hp.erase h)

theorem releaseAll_eq (m : Mgr) (hs : List String) :
    ∃ tr, releaseAll m hs = (hs.foldl List.erase m, tr) ∧ ∀ m' ∈ tr, (hs.foldl List.erase m).Sublist m' := by
  suffices h : ∀ (a : Mgr) (t : List Mgr), ∃ tr,
      hs.foldl (fun (acc : Mgr × List Mgr) h => (acc.1.erase h, acc.2 ++ [acc.1.erase h])) (a, t) =
        (hs.foldl List.erase a, t ++ tr) ∧ ∀ m' ∈ tr, (hs.foldl List.erase a).Sublist m' by
    simpa [releaseAll] using h m []
  induction hs with
  | nil => exact fun a t => ⟨[], by simp⟩
  | cons h r ih =>
    intro a t
    obtain ⟨tr, h1, h2⟩ := ih (a.erase h) (t ++ [a.erase h])
    refine ⟨a.erase h :: tr, by simp [h1], fun m' hm' => ?_⟩
    rcases List.mem_cons.1 hm' with rfl | hm
    · exact foldl_erase_sublist r _
    · exact h2 m' hm

theorem releaseAll_spec (m : Mgr) (hs : List String) :
    (releaseAll m hs).1 = hs.foldl List.erase m ∧
    (∀ rest, (hs ++ rest).Perm m → (releaseAll m hs).1.Perm rest) := by
  obtain ⟨tr, h, -⟩ := releaseAll_eq m hs
  rw [h]
  exact ⟨rfl, foldl_erase_perm hs m⟩

section
variable (canon : String → Option Nat) (addrOK : String → Bool) (s : Server) (c : Cfg) (fault : Fault)

/-- `started` is the prefix of the plan that was acquired, `tr1` the states of the start phase, `tr2` those of the
    release phase (the proof takes all three empty for a load that fails before the start phase; the statement does
    not say so). -/
theorem load_spec :
    ∃ (started : Serving) (tr1 tr2 : List Mgr) (mgr : Mgr),
      load canon addrOK s c fault =
        ({ mgr := mgr, cur := if accepts canon addrOK c fault then started else s.cur },
          accepts canon addrOK c fault, tr1 ++ tr2) ∧
      mgr = ((if accepts canon addrOK c fault then s.cur else started).map (·.1)).foldl List.erase
        ((started.map (·.1)).reverse ++ s.mgr) ∧
      (accepts canon addrOK c fault = true → plan canon c = started.map some) ∧
      (∀ m' ∈ tr1, s.mgr <:+ m') ∧ (∀ m' ∈ tr2, mgr.Sublist m') := by
  by_cases hrv : fault = Fault.read ∨ validate addrOK c = false
  · have hacc : accepts canon addrOK c fault = false := by rcases hrv with h | h <;> simp [accepts, h]
    have hl : load canon addrOK s c fault = (s, false, []) := by rcases hrv with h | h <;> simp [load, h]
    rw [hacc, hl]
    exact ⟨[], [], [], s.mgr, rfl, rfl, nofun, nofun, nofun⟩
  · obtain ⟨hr, hv⟩ : (fault == Fault.read) = false ∧ validate addrOK c = true := by simpa using hrv
    obtain ⟨started, rest, tr1, hpl, heq, hsuf, hok⟩ :=
      startAll_spec fault (plan canon c) 0 s.mgr [] []
    have hacc : accepts canon addrOK c fault = rest.isEmpty := by
      unfold accepts
      rw [hok, hr, hv]
      cases fault <;> simp
    obtain ⟨tr2, h2, hsub⟩ := releaseAll_eq ((started.map (·.1)).reverse ++ s.mgr)
      ((if rest.isEmpty then s.cur else started).map (·.1))
    rw [hacc]
    refine ⟨started, tr1, tr2, _, ?_, rfl, ?_, hsuf, hsub⟩
    · simp only [load, hr, hv, heq]
      cases hrest : rest.isEmpty <;> simp [hrest] at h2 <;> simp [h2]
    · intro h
      simpa [List.isEmpty_iff.1 h] using hpl

theorem load_ok_eq_accepts :
    (load canon addrOK s c fault).2.1 = accepts canon addrOK c fault := by
  obtain ⟨_, _, _, _, h, -⟩ := load_spec canon addrOK s c fault
  rw [h]

theorem load_ok_valid (hok : (load canon addrOK s c fault).2.1 = true) :
    validate addrOK c = true ∧ (plan canon c).all Option.isSome = true := by
  simp only [load_ok_eq_accepts, accepts, Bool.and_eq_true] at hok
  exact ⟨hok.1.1.2, hok.1.2⟩

theorem load_cur :
    (load canon addrOK s c fault).1.cur =
      if accepts canon addrOK c fault then (plan canon c).filterMap id else s.cur := by
  obtain ⟨started, _, _, _, h, -, hpl, -⟩ := load_spec canon addrOK s c fault
  rw [h]
  cases hacc : accepts canon addrOK c fault
  · rfl
  · simp [hpl hacc]

theorem load_ok_cur (hok : (load canon addrOK s c fault).2.1 = true) :
    (load canon addrOK s c fault).1.cur = (plan canon c).filterMap id := by
  rw [load_cur, ← load_ok_eq_accepts canon addrOK s, hok]; rfl

theorem load_failed_restores (hfail : (load canon addrOK s c fault).2.1 = false) :
    (load canon addrOK s c fault).1.cur = s.cur ∧ (load canon addrOK s c fault).1.mgr.Perm s.mgr := by
  obtain ⟨started, _, _, mgr, h, hmgr, -⟩ := load_spec canon addrOK s c fault
  rw [h] at hfail ⊢
  rw [show accepts canon addrOK c fault = false from hfail] at hmgr ⊢
  exact ⟨rfl, hmgr ▸ foldl_erase_perm _ _ _ ((List.reverse_perm _).append_right s.mgr).symm⟩

theorem consistent_init : Consistent Server.init := List.Perm.refl _

/-- the released handles and those of the configuration that serves afterwards make up the manager of the start
    phase: the old handles and the new ones -/
theorem consistent_preserved (hs : Consistent s) :
    Consistent (load canon addrOK s c fault).1 := by
  obtain ⟨started, _, _, mgr, h, hmgr, -⟩ := load_spec canon addrOK s c fault
  rw [h, hmgr]
  apply foldl_erase_perm
  have hnew := ((List.reverse_perm (started.map (·.1))).append hs).symm
  cases accepts canon addrOK c fault
  · exact hnew
  · exact List.perm_append_comm.trans hnew

theorem load_trace :
    ∀ m ∈ (load canon addrOK s c fault).2.2,
      s.mgr.Sublist m ∨ (load canon addrOK s c fault).1.mgr.Sublist m := by
  obtain ⟨_, tr1, tr2, _, h, -, -, h1, h2⟩ := load_spec canon addrOK s c fault
  rw [h]
  intro m hm
  rcases List.mem_append.1 hm with hm | hm
  · exact Or.inl (h1 m hm).sublist
  · exact Or.inr (h2 m hm)

end

def runLoads (canon : String → Option Nat) (addrOK : String → Bool) : Server → List (Cfg × Fault) → Server
  | s, [] => s
  | s, (c, f) :: r => runLoads canon addrOK (load canon addrOK s c f).1 r

def lastOK (canon : String → Option Nat) (addrOK : String → Bool) : Serving → List (Cfg × Fault) → Serving
  | last, [] => last
  | last, (c, f) :: r =>
    lastOK canon addrOK (if accepts canon addrOK c f then (plan canon c).filterMap id else last) r

theorem lastOK_eq_find (canon : String → Option Nat) (addrOK : String → Bool)
    (inputs : List (Cfg × Fault)) : ∀ (last : Serving),
    lastOK canon addrOK last inputs =
      match inputs.reverse.find? (fun cf => accepts canon addrOK cf.1 cf.2) with
      | none => last
      | some cf => (plan canon cf.1).filterMap id := by
  induction inputs with
  | nil => intro last; simp [lastOK]
  | cons x r ih =>
    intro last
    obtain ⟨c, f⟩ := x
    simp only [lastOK, List.reverse_cons, List.find?_append]
    rw [ih]
    cases hfind : List.find? (fun cf => accepts canon addrOK cf.1 cf.2) r.reverse with
    | some cf => simp
    | none =>
      cases hacc : accepts canon addrOK c f <;> simp [hacc]

theorem runLoads_spec (canon : String → Option Nat) (addrOK : String → Bool)
    (inputs : List (Cfg × Fault)) : ∀ (s : Server), Consistent s →
    (runLoads canon addrOK s inputs).cur = lastOK canon addrOK s.cur inputs ∧
    Consistent (runLoads canon addrOK s inputs) := by
  induction inputs with
  | nil => exact fun s hs => ⟨rfl, hs⟩
  | cons x r ih =>
    intro s hs
    obtain ⟨c, f⟩ := x
    have h := ih _ (consistent_preserved canon addrOK s c f hs)
    rwa [load_cur] at h

theorem reload_all_or_nothing (canon : String → Option Nat) (addrOK : String → Bool)
    (inputs : List (Cfg × Fault)) :
    let final := runLoads canon addrOK Server.init inputs
    let served : Serving :=
      match inputs.reverse.find? (fun cf => accepts canon addrOK cf.1 cf.2) with
      | none => []
      | some cf => (plan canon cf.1).filterMap id
    final.cur = served ∧ final.cur = lastOK canon addrOK [] inputs ∧
      final.mgr.Perm (served.map (·.1)) := by
  intro final served
  obtain ⟨h1, h2⟩ := runLoads_spec canon addrOK inputs Server.init consistent_init
  have h3 : lastOK canon addrOK [] inputs = served := lastOK_eq_find canon addrOK inputs []
  have hcur : final.cur = served := h1.trans h3
  refine ⟨hcur, h1, ?_⟩
  rw [← hcur]
  exact h2

theorem bound_throughout (canon : String → Option Nat) (addrOK : String → Bool) (s : Server)
    (c : Cfg) (fault : Fault) (hs : Consistent s) (lk : String)
    (hold : lk ∈ s.cur.map (·.1))
    (hnew : lk ∈ (load canon addrOK s c fault).1.cur.map (·.1)) :
    ∀ m ∈ (load canon addrOK s c fault).2.2, lk ∈ m := by
  intro m hm
  rcases load_trace canon addrOK s c fault m hm with h | h
  · exact h.subset (hs.mem_iff.2 hold)
  · exact h.subset ((consistent_preserved canon addrOK s c fault hs).mem_iff.2 hnew)

set_option linter.unusedVariables false in
/-- the case of a successful reload (`hok` is not needed) -/
theorem retained_never_unbound (canon : String → Option Nat) (addrOK : String → Bool) (s : Server)
    (c : Cfg) (fault : Fault) (hs : Consistent s)
    (hok : (load canon addrOK s c fault).2.1 = true) (lk : String)
    (hold : lk ∈ s.cur.map (·.1))
    (hnew : lk ∈ (load canon addrOK s c fault).1.cur.map (·.1)) :
    ∀ m ∈ (load canon addrOK s c fault).2.2, lk ∈ m :=
  bound_throughout canon addrOK s c fault hs lk hold hnew

section Examples

def exCanon : String → Option Nat :=
  fun s => if s == "aes" then some 0 else if s == "chacha" then some 1 else none
def exAddrOK : String → Bool := fun _ => true

def exA : Cfg :=
  { services := [ { listeners := [⟨true, ":9000"⟩, ⟨true, ":9001"⟩], keys := [⟨"a", "aes", "s1"⟩] },
                  { listeners := [⟨false, ":9000"⟩], keys := [⟨"b", "chacha", "s2"⟩] } ],
    legacy := [] }
/-- against `exA`: keeps ":9000" (tcp and udp), drops ":9001", adds ":9002"; service 1 gains key "c" -/
def exB : Cfg :=
  { services := [ { listeners := [⟨true, ":9000"⟩, ⟨true, ":9002"⟩],
                    keys := [⟨"a", "aes", "s1"⟩, ⟨"c", "aes", "s3"⟩] },
                  { listeners := [⟨false, ":9000"⟩], keys := [⟨"b", "chacha", "s2"⟩] } ],
    legacy := [] }
def exBad : Cfg :=
  { services := [ { listeners := [⟨true, ":9003"⟩], keys := [⟨"a", "aes", "s1"⟩] },
                  { listeners := [⟨true, ":9004"⟩], keys := [⟨"z", "rot13", "s9"⟩] } ],
    legacy := [] }

def exS1 : Server := (load exCanon exAddrOK Server.init exA .none).1
def exS2 : Server := (load exCanon exAddrOK exS1 exB .none).1

example : (load exCanon exAddrOK Server.init exA .none).2.1 = true := by decide +kernel
example : exS1.mgr = ["udp/:9000", "tcp/:9001", "tcp/:9000"] := by decide +kernel
example : (load exCanon exAddrOK exS1 exB .none).2.1 = true := by decide +kernel
example : exS2.cur.map (·.1) = ["tcp/:9000", "tcp/:9002", "udp/:9000"] := by decide +kernel
example : exS2.mgr = ["tcp/:9002", "udp/:9000", "tcp/:9000"] := by decide +kernel
example : (load exCanon exAddrOK exS1 exB .none).2.2.length = 6 := by decide +kernel
example : ∀ m ∈ (load exCanon exAddrOK exS1 exB .none).2.2, "tcp/:9000" ∈ m := by decide +kernel
example : ∀ m ∈ (load exCanon exAddrOK exS1 exB .none).2.2, "udp/:9000" ∈ m := by decide +kernel
example : "tcp/:9001" ∉ exS2.mgr ∧ "tcp/:9002" ∈ exS2.mgr := by decide +kernel
example : (load exCanon exAddrOK exS1 exB (.bind 1)).2.1 = false := by decide +kernel
example : (load exCanon exAddrOK exS1 exB (.bind 1)).1.cur = exS1.cur := by decide +kernel
example : (load exCanon exAddrOK exS1 exB (.bind 1)).1.mgr = exS1.mgr := by decide +kernel
example : (load exCanon exAddrOK exS1 exB (.bind 1)).2.2 =
    [["tcp/:9000", "udp/:9000", "tcp/:9001", "tcp/:9000"], ["udp/:9000", "tcp/:9001", "tcp/:9000"]] := by
  decide +kernel
-- a rejected cipher in the second service: the first service's listener was acquired and is released
example : (load exCanon exAddrOK exS1 exBad .none).2.1 = false ∧
    (load exCanon exAddrOK exS1 exBad .none).1.mgr = exS1.mgr ∧
    (load exCanon exAddrOK exS1 exBad .none).2.2.length = 2 := by decide +kernel
example : (load exCanon exAddrOK exS1 exB .read).2.1 = false := by decide +kernel
example : (runLoads exCanon exAddrOK Server.init
    [(exA, .none), (exB, .bind 1), (exB, .none), (exBad, .none), (exA, .read)]).cur = exS2.cur := by decide +kernel
example : authOn exS2.cur "tcp/:9002" (0, "s3") = some "c" := by decide +kernel
example : authOn exS2.cur "udp/:9000" (0, "s3") = none := by decide +kernel
example : authOn exS2.cur "udp/:9000" (1, "s2") = some "b" := by decide +kernel

end Examples

end OutlineModel.Config

