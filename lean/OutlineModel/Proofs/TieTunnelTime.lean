import OutlineModel.Proofs.GoRT
import OutlineModel.Proofs.TieIP
import OutlineModel.Gen.Code
import OutlineModel.Model.TunnelTime
import OutlineModel.Proofs.TunnelTime
/-
Tie between the translated tunnelTimeMetrics (prometheus/metrics.go: reportTunnelTime, startConnection, stopConnection,
Collect) and the model Model/TunnelTime.lean: a simulation relation `Sim` that every translated operation preserves while
doing what the model's operation does, and never panicking.

The model's `active` is the map's entries in the map's order, so `Collect` agrees with the model's `collect` whatever that
order is.  The two counter vectors are seen through the effect log: the per-key vector is called with one label value,
the per-location vector with three.
-/
namespace OutlineModel.Tie.TunnelTime
open OutlineModel OutlineModel.GoRT OutlineModel.TunnelTime
open OutlineModel.Gen

def absKey (k : Code.IPKey) : IPKey := { ip := k.ip.val, key := k.accessKey }

theorem absKey_inj {a b : Code.IPKey} : absKey a = absKey b ↔ a = b := by
  obtain ⟨⟨ia⟩, ka⟩ := a
  obtain ⟨⟨ib⟩, kb⟩ := b
  simp [absKey]

def locOf (asnLabel : Int → String) (i : Code.IPInfo) : String :=
  i.CountryCode ++ "|" ++ asnLabel i.ASN.Number ++ "|" ++ i.ASN.Organization

def absClient (asnLabel : Int → String) (e : Code.IPKey × Code.activeClient) : Client :=
  { k := absKey e.1, count := e.2.connCount, start := e.2.startTime.toNat, loc := locOf asnLabel e.2.info }

def perKeyOf (es : List Eff) : List (String × Nat) :=
  es.foldl (fun m e => if e.strs.length = 1 then addTo m (e.strs.headD "") (e.args.headD 0).toNat else m) []

def perLocOf (es : List Eff) : List (String × Nat) :=
  es.foldl (fun m e => match e.strs with
    | [a, b, c] => addTo m (a ++ "|" ++ b ++ "|" ++ c) (e.args.headD 0).toNat
    | _ => m) []

/-- `nodup`: `GoMap` does not carry the no-duplicate-keys invariant of Go maps, and a lookup has to find the entry a loop is
    at (`GoMap.get?_of_mem`); `nonneg`: the model's start times are `Nat`, and `(now - start).toNat = now - start.toNat`
    needs `0 ≤ start` -/
structure Sim (asnLabel : Int → String) (c : Code.tunnelTimeMetrics) (t : TT) : Prop where
  active : t.active = c.activeClients.ents.map (absClient asnLabel)
  perKey : t.perKey = perKeyOf c.eff
  perLoc : t.perLoc = perLocOf c.eff
  nodup : c.activeClients.keys.Nodup
  nonneg : ∀ e ∈ c.activeClients.ents, 0 ≤ e.2.startTime

def effsOf (asnLabel : Int → String) (now : Nat) (e : Code.IPKey × Code.activeClient) : List Eff :=
  [{ name := "tunnelTimePerKey.Add", args := [(now : Int) - e.2.startTime], strs := [e.1.accessKey] },
   { name := "tunnelTimePerLocation.Add", args := [(now : Int) - e.2.startTime],
     strs := [e.2.info.CountryCode, asnLabel e.2.info.ASN.Number, e.2.info.ASN.Organization] }]

def restart (now : Nat) (e : Code.IPKey × Code.activeClient) : Code.IPKey × Code.activeClient :=
  (e.1, { e.2 with startTime := (now : Int) })

def collectStep (asnLabel : Int → String) (now : Nat) (c : Code.tunnelTimeMetrics) (k : Code.IPKey) (cl : Code.activeClient) :
    Code.tunnelTimeMetrics :=
  { c with activeClients := c.activeClients.insert k { cl with startTime := (now : Int) },
           eff := c.eff ++ effsOf asnLabel now (k, cl) }

/-- the loop of `Collect` for ANY body that does `collectStep` on registered keys (`simp` shows it for the generated body;
    `hbody` offers `k ∈ keys` beside the entry because a body that looks the entry up itself, `v := m[k]`, tests that).
    Invariant: the entries are `pre`, already reported and restarted, then `rest`, still to come -/
theorem collect_loop (asnLabel : Int → String) (now : Nat)
    (body : Code.IPKey → Code.tunnelTimeMetrics → Option (ForInStep Code.tunnelTimeMetrics))
    (hbody : ∀ (k : Code.IPKey) (c : Code.tunnelTimeMetrics) (cl : Code.activeClient),
      c.activeClients.get? k = some cl → k ∈ c.activeClients.keys →
      body k c = some (ForInStep.yield (collectStep asnLabel now c k cl))) :
    ∀ (rest pre : List (Code.IPKey × Code.activeClient)) (c : Code.tunnelTimeMetrics),
      c.activeClients.ents = pre ++ rest → ((pre ++ rest).map (·.1)).Nodup →
      forIn (rest.map (·.1)) c body =
        some { c with activeClients := ⟨pre ++ rest.map (restart now)⟩, eff := c.eff ++ rest.flatMap (effsOf asnLabel now) } := by
  intro rest
  induction rest with
  | nil =>
    intro pre c h _
    have : c.activeClients = ⟨pre⟩ := GoMap.ext (by simpa using h)
    simp [← this]
  | cons e rest ih =>
    intro pre c h hnd
    obtain ⟨-, hr, hd⟩ := List.nodup_append.1 (List.map_append ▸ hnd)
    have hpre : e.1 ∉ pre.map (·.1) := fun hh => hd _ hh _ List.mem_cons_self rfl
    have hrest : e.1 ∉ rest.map (·.1) := (List.nodup_cons.1 hr).1
    -- the key the loop is at is registered, with the entry the loop is at
    have hin : e ∈ c.activeClients.ents := h ▸ List.mem_append_right _ List.mem_cons_self
    have hmem : e.1 ∈ c.activeClients.keys := List.mem_map_of_mem hin
    have hget : c.activeClients.get? e.1 = some e.2 := GoMap.get?_of_mem (by rw [GoMap.keys, h]; exact hnd) hin
    simp only [List.map_cons, List.forIn_cons, hbody e.1 c e.2 hget hmem, Option.bind_eq_bind, Option.bind_some]
    have hc1 : (collectStep asnLabel now c e.1 e.2).activeClients.ents = (pre ++ [restart now e]) ++ rest := by
      show (GoMap.insert c.activeClients e.1 _).ents = _
      rw [GoMap.ents_insert_present _ _ _ hmem, h, List.map_append, List.map_cons, GoMap.mapIf_absent pre _ _ hpre,
        GoMap.mapIf_absent rest _ _ hrest, if_pos rfl, List.append_assoc]
      rfl
    rw [ih (pre ++ [restart now e]) (collectStep asnLabel now c e.1 e.2) hc1 (by simpa [restart] using hnd)]
    simp [collectStep, List.append_assoc]

section
variable (asnLabel : Int → String)

/-- **reportTunnelTime** in closed form: two metric calls, then the period restarts -/
theorem report_eq (c : Code.tunnelTimeMetrics) (k : Code.IPKey) (cl : Code.activeClient)
    (now : Nat) :
    Code.tunnelTimeMetrics.reportTunnelTime asnLabel c k cl now =
      some ({ c with eff := c.eff ++ effsOf asnLabel now (k, cl) }, { cl with startTime := now }) := by
  unfold Code.tunnelTimeMetrics.reportTunnelTime
  simp [GoRT.seconds, List.append_assoc, effsOf]

theorem counters_effsOf (now : Nat) (es : List Eff) (e : Code.IPKey × Code.activeClient)
    (hs : 0 ≤ e.2.startTime) :
    addTo (perKeyOf es) e.1.accessKey (now - e.2.startTime.toNat) = perKeyOf (es ++ effsOf asnLabel now e) ∧
    addTo (perLocOf es) (locOf asnLabel e.2.info) (now - e.2.startTime.toNat) = perLocOf (es ++ effsOf asnLabel now e) := by
  simp [perKeyOf, perLocOf, effsOf, locOf, List.foldl_append, Int.toNat_sub'' (Int.natCast_nonneg now) hs]

theorem beq_absKey (e : Code.IPKey × Code.activeClient) (k : Code.IPKey) :
    ((absClient asnLabel e).k == absKey k) = decide (e.1 = k) := by
  rw [Bool.beq_eq_decide_eq]
  exact decide_eq_decide.2 absKey_inj

section
variable {asnLabel} {c : Code.tunnelTimeMetrics} {t : TT} {k : Code.IPKey} {cl cl' : Code.activeClient}

theorem Sim.find (h : Sim asnLabel c t) (k : Code.IPKey) :
    find t (absKey k) = (c.activeClients.get? k).map fun cl => absClient asnLabel (k, cl) := by
  unfold TunnelTime.find
  rw [h.active, List.find?_map, GoMap.get?, Option.map_map]
  simp only [Function.comp_def, beq_absKey]
  exact Option.map_congr fun e he => by rw [← show e.1 = k by simpa using List.find?_some he]

theorem Sim.update (h : Sim asnLabel c t) (hget : c.activeClients.get? k = some cl) {g : Client → Client}
    (hg : absClient asnLabel (k, cl') = g (absClient asnLabel (k, cl))) (hs : 0 ≤ cl'.startTime) :
    Sim asnLabel { c with activeClients := c.activeClients.insert k cl' }
      { t with active := t.active.map fun x => if x.k == absKey k then g x else x } := by
  have hin := GoMap.mem_of_get? hget
  have hmem : k ∈ c.activeClients.keys := List.mem_map_of_mem (f := (·.1)) hin
  refine ⟨?_, h.perKey, h.perLoc, ?_, ?_⟩
  · show _ = (GoMap.insert _ _ _).ents.map _
    rw [GoMap.ents_insert_present _ _ _ hmem, h.active, List.map_map, List.map_map]
    refine List.map_congr_left fun e he => ?_
    simp only [Function.comp, beq_absKey, decide_eq_true_eq]
    split
    · next hek => rw [hg, List.eq_of_nodup_map Prod.fst h.nodup he hin hek]
    · rfl
  · exact (GoMap.keys_insert_present _ _ _ hmem).symm ▸ h.nodup
  · intro e (he : e ∈ (GoMap.insert c.activeClients k cl').ents)
    obtain ⟨e0, he0, rfl⟩ := List.mem_map.1 (GoMap.ents_insert_present _ _ _ hmem ▸ he)
    split
    · exact hs
    · exact h.nonneg e0 he0

theorem Sim.new (h : Sim asnLabel c t) (hk : k ∉ c.activeClients.keys) (hs : 0 ≤ cl'.startTime) :
    Sim asnLabel { c with activeClients := c.activeClients.insert k cl' }
      { t with active := absClient asnLabel (k, cl') :: t.active } := by
  refine ⟨?_, h.perKey, h.perLoc, ?_, ?_⟩
  · show _ = (GoMap.insert _ _ _).ents.map _
    rw [GoMap.ents_insert_absent _ _ _ hk, h.active]; rfl
  · exact (GoMap.keys_insert_absent _ _ _ hk).symm ▸ List.nodup_cons.2 ⟨hk, h.nodup⟩
  · intro e (he : e ∈ (GoMap.insert c.activeClients k cl').ents)
    rcases List.mem_cons.1 (GoMap.ents_insert_absent _ _ _ hk ▸ he) with rfl | he
    · exact hs
    · exact h.nonneg e he

theorem Sim.erase (h : Sim asnLabel c t) (k : Code.IPKey) :
    Sim asnLabel { c with activeClients := c.activeClients.erase k }
      { t with active := t.active.filter fun x => !(x.k == absKey k) } := by
  refine ⟨?_, h.perKey, h.perLoc, List.Nodup.sublist (List.Sublist.map _ List.filter_sublist) h.nodup,
    fun e he => h.nonneg e (List.mem_filter.1 he).1⟩
  rw [h.active, List.filter_map]
  simp only [Function.comp_def, beq_absKey, ← decide_not]
  rfl

theorem Sim.report (h : Sim asnLabel c t) (now : Nat) (e : Code.IPKey × Code.activeClient) (hs : 0 ≤ e.2.startTime) :
    Sim asnLabel { c with eff := c.eff ++ effsOf asnLabel now e } (report t (absClient asnLabel e) now) :=
  have hc := counters_effsOf asnLabel now c.eff e hs
  ⟨h.active, by rw [TunnelTime.report, h.perKey]; exact hc.1, by rw [TunnelTime.report, h.perLoc]; exact hc.2,
    h.nodup, h.nonneg⟩

theorem Sim.reports (now : Nat) : ∀ (ents : List (Code.IPKey × Code.activeClient)) {c : Code.tunnelTimeMetrics} {t : TT},
    Sim asnLabel c t → (∀ e ∈ ents, 0 ≤ e.2.startTime) →
    Sim asnLabel { c with eff := c.eff ++ ents.flatMap (effsOf asnLabel now) }
      ((ents.map (absClient asnLabel)).foldl (fun acc x => TunnelTime.report acc x now) t)
  | [], _, _, h, _ => by simpa using h
  | e :: rest, _, _, h, hnn => by
    have := Sim.reports now rest (h.report now e (hnn e List.mem_cons_self))
      fun x hx => hnn x (List.mem_cons_of_mem _ hx)
    simpa [List.append_assoc] using this

theorem Sim.restart (h : Sim asnLabel c t) (now : Nat) :
    Sim asnLabel { c with activeClients := ⟨c.activeClients.ents.map (restart now)⟩ }
      { t with active := t.active.map fun x => { x with start := now } } :=
  ⟨by rw [h.active, List.map_map, List.map_map]; exact List.map_congr_left fun e _ => by simp [absClient, TunnelTime.restart],
    h.perKey, h.perLoc, by rw [GoMap.keys, List.map_map]; exact h.nodup,
    fun e he => by obtain ⟨e0, _, rfl⟩ := List.mem_map.1 he; exact Int.natCast_nonneg now⟩
end

/-- **stopConnection**: never panics, preserves the simulation, does what the model's `stop` does -/
theorem stop_tie (now : Nat) (c : Code.tunnelTimeMetrics) (t : TT) (k : Code.IPKey)
    (h : Sim asnLabel c t) :
    ∃ c', Code.tunnelTimeMetrics.stopConnection asnLabel (now : Int) c k = some c' ∧ c'.ip2info = c.ip2info ∧
      Sim asnLabel c' (stop t (absKey k) now) := by
  have hfind := h.find k
  have hc := GoMap.contains_eq_isSome_get? c.activeClients k
  unfold Code.tunnelTimeMetrics.stopConnection
  cases hget : c.activeClients.get? k with
  | none =>
    -- "Failed to find active client": nothing changes
    rw [hget] at hfind hc
    simp only [hc, Option.isSome_none, Bool.not_false, if_true, pure]
    exact ⟨c, rfl, rfl, (stop_none hfind now).symm ▸ h⟩
  | some cl =>
    rw [hget] at hfind hc
    have hs : 0 ≤ cl.startTime := h.nonneg _ (GoMap.mem_of_get? hget)
    simp only [hc, hget, Option.isSome_some, Bool.not_true, Bool.false_eq_true, if_false, Option.getD_some, pure, bind,
      Option.bind_some]
    by_cases hle : cl.connCount - 1 ≤ 0
    · -- last tunnel: report and remove
      simp only [hle, decide_true, if_true, report_eq, Option.bind_some, GoMap.erase_insert]
      refine ⟨_, rfl, rfl, ?_⟩
      rw [stop_last hfind hle]
      exact (h.report now (k, cl) hs).erase k
    · -- other tunnels of the client remain: only the count goes down
      simp only [hle, decide_false, Bool.false_eq_true, if_false]
      refine ⟨_, rfl, rfl, ?_⟩
      rw [stop_more hfind hle]
      exact h.update hget rfl hs

end

section
variable (get : Opaque "ipinfo.IPInfoMap" → List UInt8 → Code.IPInfo × Option String)
  (asSlice : Opaque "netip.Addr" → List UInt8) (asnLabel : Int → String)

/-- the `getD` default is never taken: the translated GetIPInfoFromIP never panics (`lookup_some`) -/
def lookupInfo (c : Code.tunnelTimeMetrics) (k : Code.IPKey) : Code.IPInfo :=
  ((Code.GetIPInfoFromIP get c.ip2info (asSlice k.ip)).getD (Code.IPInfo.zero, none)).1

theorem lookup_some (c : Code.tunnelTimeMetrics) (k : Code.IPKey) :
    ∃ e, Code.GetIPInfoFromIP get c.ip2info (asSlice k.ip) = some (lookupInfo get asSlice c k, e) := by
  obtain ⟨r, hr, _⟩ := Option.map_eq_some_iff.1 (Tie.IP.getIPInfoFromIP_tie get c.ip2info (asSlice k.ip))
  exact ⟨r.2, by rw [lookupInfo, hr]; rfl⟩

/-- **startConnection**: never panics, preserves the simulation, does what the model's `start` does -/
theorem start_tie (now : Nat) (c : Code.tunnelTimeMetrics) (t : TT) (k : Code.IPKey) (h : Sim asnLabel c t) :
    ∃ c', Code.tunnelTimeMetrics.startConnection asSlice get (now : Int) c k = some c' ∧ c'.ip2info = c.ip2info ∧
      Sim asnLabel c' (start t (absKey k) now (locOf asnLabel (lookupInfo get asSlice c k))) := by
  have hfind := h.find k
  have hc := GoMap.contains_eq_isSome_get? c.activeClients k
  unfold Code.tunnelTimeMetrics.startConnection
  cases hget : c.activeClients.get? k with
  | some cl =>
    rw [hget] at hfind hc
    simp only [hc, hget, Option.isSome_some, Bool.not_true, Bool.false_eq_true, if_false, Option.getD_some, pure, bind,
      Option.bind_some]
    refine ⟨_, rfl, rfl, ?_⟩
    rw [start_more hfind]
    exact h.update hget rfl (h.nonneg _ (GoMap.mem_of_get? hget))
  | none =>
    rw [hget] at hfind hc
    obtain ⟨er, hlook⟩ := lookup_some get asSlice c k
    simp only [hc, hlook, Option.isSome_none, Bool.not_false, if_true, Bool.false_eq_true, if_false, pure, bind,
      Option.bind_some, GoMap.insert_insert]
    refine ⟨_, rfl, rfl, ?_⟩
    rw [start_new hfind]
    exact h.new (by simpa using hc) (Int.natCast_nonneg now)

-- `hmem` and `GoMap.contains_eq` in the body equation are for the loop written `for k := range m { v := m[k]; … }`
set_option linter.unusedSimpArgs false in
/-- **Collect**: never panics, preserves the simulation, does what the model's `collect` does (every active
    client is reported once and its period restarts), whatever the order of the map -/
theorem collect_tie (now : Nat) (c : Code.tunnelTimeMetrics) (t : TT)
    (h : Sim asnLabel c t) :
    ∃ c', Code.tunnelTimeMetrics.Collect asnLabel (now : Int) c = some c' ∧ c'.ip2info = c.ip2info ∧
      Sim asnLabel c' (collect t now) := by
  have hloop : Code.tunnelTimeMetrics.Collect asnLabel (now : Int) c =
      some { c with activeClients := ⟨c.activeClients.ents.map (restart now)⟩,
                    eff := c.eff ++ c.activeClients.ents.flatMap (effsOf asnLabel now) } := by
    unfold Code.tunnelTimeMetrics.Collect
    simp only [GoMap.keys, Option.bind_eq_bind]
    rw [collect_loop asnLabel now _ ?_ c.activeClients.ents [] c (by simp) (by simpa [GoMap.keys] using h.nodup)]
    · rfl
    · intro k c0 cl hget hmem
      simp [hget, hmem, report_eq, collectStep, GoMap.contains_eq]
  refine ⟨_, hloop, rfl, ?_⟩
  have := (h.reports now c.activeClients.ents h.nonneg).restart now
  rwa [← h.active] at this

inductive COp
  | start (k : Code.IPKey) (now : Nat)
  | stop (k : Code.IPKey) (now : Nat)
  | collect (now : Nat)

def codeStep (c : Code.tunnelTimeMetrics) : COp → Option Code.tunnelTimeMetrics
  | .start k now => Code.tunnelTimeMetrics.startConnection asSlice get (now : Int) c k
  | .stop k now => Code.tunnelTimeMetrics.stopConnection asnLabel (now : Int) c k
  | .collect now => Code.tunnelTimeMetrics.Collect asnLabel (now : Int) c

def codeRun (c : Code.tunnelTimeMetrics) : List COp → Option Code.tunnelTimeMetrics
  | [] => some c
  | o :: os => (codeStep get asSlice asnLabel c o).bind (fun c' => codeRun c' os)

/-- `db` is the collector's `ip2info`; no operation changes it (the `c'.ip2info = c.ip2info` conjunct of every tie), so
    one `absOp` serves a whole history -/
def absOp (db : Opaque "ipinfo.IPInfoMap") : COp → Op
  | .start k now => .start (absKey k) now
      (locOf asnLabel ((Code.GetIPInfoFromIP get db (asSlice k.ip)).getD (Code.IPInfo.zero, none)).1)
  | .stop k now => .stop (absKey k) now
  | .collect now => .collect now

theorem step_tie (c : Code.tunnelTimeMetrics) (t : TT) (h : Sim asnLabel c t) (o : COp) :
    ∃ c', codeStep get asSlice asnLabel c o = some c' ∧ c'.ip2info = c.ip2info ∧
      Sim asnLabel c' (step t (absOp get asSlice asnLabel c.ip2info o)) := by
  cases o with
  | start k now => exact start_tie get asSlice asnLabel now c t k h
  | stop k now => exact stop_tie asnLabel now c t k h
  | collect now => exact collect_tie asnLabel now c t h

theorem codeRun_sim : ∀ (os : List COp) (c : Code.tunnelTimeMetrics) (t : TT), Sim asnLabel c t →
    ∃ c', codeRun get asSlice asnLabel c os = some c' ∧
      Sim asnLabel c' (run t (os.map (absOp get asSlice asnLabel c.ip2info))) := by
  intro os
  induction os with
  | nil => intro c t h; exact ⟨c, rfl, h⟩
  | cons o os ih =>
    intro c t h
    obtain ⟨c1, h1, h2, h3⟩ := step_tie get asSlice asnLabel c t h o
    obtain ⟨c', h4, h5⟩ := ih c1 _ h3
    rw [h2] at h5
    exact ⟨c', (congrArg (Option.bind · _) h1).trans h4, h5⟩

theorem sim_zero (db : Opaque "ipinfo.IPInfoMap") :
    Sim asnLabel { Code.tunnelTimeMetrics.zero with ip2info := db } TT.init :=
  ⟨rfl, rfl, rfl, List.nodup_nil, by intro e he; cases he⟩
end

end OutlineModel.Tie.TunnelTime
