import OutlineModel.Model.UDP
import OutlineModel.Proofs.CipherList
/- For each function of the UDP handler model a lemma that lists every outcome with what decides it (`*_cases`, or
   equations).  What C03, C04, C05, C14, C16 and C18 say about the handler is read off these. -/
namespace OutlineModel.Socks

/-- the last step of SplitAddr: a header length is accepted when the input is at least that long -/
theorem splitAddrLen_eq_some_of_eq_ite (b : List UInt8) (k n : Nat)
    (hk : splitAddrLen b = if b.length < k then none else some k)
    (h : splitAddrLen b = some n) : n = k ∧ k ≤ b.length := by
  rw [hk] at h
  split at h
  · cases h
  · cases h; exact ⟨rfl, by omega⟩

theorem splitAddrLen_bounds (b : List UInt8) (n : Nat) (h : splitAddrLen b = some n) :
    n ≤ b.length ∧ 4 ≤ n ∧
    ((b.head? = some 1 ∧ n = 7) ∨ (b.head? = some 4 ∧ n = 19) ∨
     (b.head? = some 3 ∧ ∃ l, b[1]? = some l ∧ n = 4 + l.toNat)) := by
  cases b with
  | nil => cases h
  | cons t rest =>
    by_cases h1 : t = 1
    · subst h1
      obtain ⟨rfl, hle⟩ := splitAddrLen_eq_some_of_eq_ite _ 7 n rfl h
      exact ⟨hle, by omega, .inl ⟨rfl, rfl⟩⟩
    by_cases h4 : t = 4
    · subst h4
      obtain ⟨rfl, hle⟩ := splitAddrLen_eq_some_of_eq_ite _ 19 n rfl h
      exact ⟨hle, by omega, .inr (.inl ⟨rfl, rfl⟩)⟩
    by_cases h3 : t = 3
    · subst h3
      cases rest with
      | nil => cases h
      | cons l rest =>
        obtain ⟨rfl, hle⟩ := splitAddrLen_eq_some_of_eq_ite _ (1 + 1 + l.toNat + 2) n rfl h
        exact ⟨hle, by omega, .inr (.inr ⟨rfl, l, rfl, by omega⟩)⟩
    · simp [splitAddrLen, h1, h3, h4] at h

theorem slice_ok {site : String} {a : List UInt8} {i j : Nat} (h : i ≤ j ∧ j ≤ a.length) :
    slice site a i j = .ok ((a.take j).drop i) := by
  unfold slice; simp [h]

theorem idx_ok {site : String} {a : List UInt8} {i : Nat} (h : i < a.length) :
    idx site a i = .ok a[i] := by
  unfold idx; simp [h]

/-- what the three address types share: the host bytes `a[i:j]` and the two port bytes after them are in range -/
theorem decode_host_port {s₁ s₂ s₃ : String} (a : List UInt8) (i j : Nat) (mk : List UInt8 → Nat → Target)
    (hij : i ≤ j) (hj : j + 2 ≤ a.length) :
    ∃ tgt, (do let x ← slice s₁ a i j
               let hi ← idx s₂ a j
               let lo ← idx s₃ a (j + 1)
               return some (mk x (port16 hi lo)) : Except Panic (Option Target)) = .ok (some tgt) := by
  rw [slice_ok (by omega), idx_ok (by omega), idx_ok (by omega)]
  exact ⟨_, rfl⟩

theorem decode_ok_of_length (a : List UInt8)
    (h : (a[0]? = some 1 ∧ 7 ≤ a.length) ∨ (a[0]? = some 4 ∧ 19 ≤ a.length) ∨
         (a[0]? = some 3 ∧ ∃ l, a[1]? = some l ∧ 4 + l.toNat ≤ a.length)) :
    ∃ tgt, decode a = .ok (some tgt) := by
  unfold decode idx
  rcases h with ⟨h0, hl⟩ | ⟨h0, hl⟩ | ⟨h0, l, h1, hl⟩
  · rw [h0]; exact decode_host_port a 1 5 .v4 (by omega) (by omega)
  · rw [h0]; exact decode_host_port a 1 17 .v6 (by omega) (by omega)
  · rw [h0, h1]; exact decode_host_port a 2 (2 + l.toNat) .domain (by omega) (by omega)

theorem decode_split (b : List UInt8) (n : Nat) (h : splitAddrLen b = some n) :
    ∃ tgt, decode (b.take n) = .ok (some tgt) := by
  obtain ⟨hle, hn, hcase⟩ := splitAddrLen_bounds b n h
  apply decode_ok_of_length
  rw [List.getElem?_take_of_lt (by omega), List.getElem?_take_of_lt (by omega), ← List.head?_eq_getElem?, List.length_take_of_le hle]
  rcases hcase with ⟨ht, rfl⟩ | ⟨ht, rfl⟩ | ⟨ht, l, hl, rfl⟩
  · exact .inl ⟨ht, Nat.le_refl _⟩
  · exact .inr (.inl ⟨ht, Nat.le_refl _⟩)
  · exact .inr (.inr ⟨ht, l, hl, Nat.le_refl _⟩)

theorem encodeIP_length (ip : List UInt8) (port : Nat) (h : ip.length = 4 ∨ ip.length = 16) :
    (encodeIP ip port).length = 7 ∨ (encodeIP ip port).length = 19 := by
  unfold encodeIP
  rcases h with h4 | h16
  · left; simp [h4]
  · simp only [h16]
    split
    · rename_i hc; simp at hc
    · split
      · left; simp [h16]
      · right; simp [h16]

end OutlineModel.Socks

namespace OutlineModel.UDP
open OutlineModel.Socks

variable (validate : List UInt8 → IP.Verdict) (resolve : Target → Resolved)

/-- The bounds checks never fail, and the address type is a known one after SplitAddr, so "ERR_RESOLVE_ADDRESS" only
    ever stands for a failed resolver. -/
theorem validatePacket_cases (text : List UInt8) :
    (splitAddrLen text = none ∧ validatePacket validate resolve text = .ok (.error "ERR_READ_ADDRESS")) ∨
    ∃ n tgt, splitAddrLen text = some n ∧ n ≤ text.length ∧ decode (text.take n) = .ok (some tgt) ∧
      ((resolve tgt = .fail ∧ validatePacket validate resolve text = .ok (.error "ERR_RESOLVE_ADDRESS")) ∨
       ∃ ip, resolve tgt = .ip ip ∧
         ((validate ip = .invalid ∧ validatePacket validate resolve text = .ok (.error "ERR_ADDRESS_INVALID")) ∨
          (validate ip = .priv ∧ validatePacket validate resolve text = .ok (.error "ERR_ADDRESS_PRIVATE")) ∨
          (validate ip = .ok ∧ ∃ port, validatePacket validate resolve text = .ok (.ok (text.drop n, ip, port))))) := by
  unfold validatePacket
  cases hs : splitAddrLen text with
  | none => exact .inl ⟨rfl, rfl⟩
  | some n =>
    have hle := (splitAddrLen_bounds text n hs).1
    obtain ⟨tgt, hd⟩ := decode_split text n hs
    refine .inr ⟨n, tgt, rfl, hle, hd, ?_⟩
    simp only [bind, Except.bind, pure, Except.pure]
    rw [slice_ok ⟨Nat.zero_le _, hle⟩, slice_ok ⟨hle, Nat.le_refl _⟩]
    simp only [List.drop_zero, hd, List.take_length]
    cases resolve tgt with
    | fail => exact .inl ⟨rfl, rfl⟩
    | ip ip =>
      refine .inr ⟨ip, rfl, ?_⟩
      simp only []
      cases validate ip with
      | invalid => exact .inl ⟨rfl, rfl⟩
      | priv => exact .inr (.inl ⟨rfl, rfl⟩)
      | ok => exact .inr (.inr ⟨rfl, _, rfl⟩)

theorem validatePacket_no_panic (text : List UInt8) : ∃ r, validatePacket validate resolve text = .ok r := by
  rcases validatePacket_cases validate resolve text with
    ⟨_, h⟩ | ⟨_, _, _, _, _, ⟨_, h⟩ | ⟨_, _, ⟨_, h⟩ | ⟨_, h⟩ | ⟨_, _, h⟩⟩⟩ <;> exact ⟨_, h⟩

theorem validatePacket_ok {text payload ip : List UInt8} {port : Nat}
    (h : validatePacket validate resolve text = .ok (.ok (payload, ip, port))) :
    (∃ n, splitAddrLen text = some n ∧ payload = text.drop n) ∧ validate ip = .ok := by
  rcases validatePacket_cases validate resolve text with
    ⟨_, h'⟩ | ⟨n, _, hs, _, _, ⟨_, h'⟩ | ⟨_, _, ⟨_, h'⟩ | ⟨_, h'⟩ | ⟨hv, _, h'⟩⟩⟩ <;> rw [h'] at h <;> cases h
  exact ⟨⟨n, hs, rfl⟩, hv⟩

theorem validatePacket_error_ne_ok {text : List UInt8} {s : String}
    (h : validatePacket validate resolve text = .ok (.error s)) : s ≠ "OK" := by
  rcases validatePacket_cases validate resolve text with
    ⟨_, h'⟩ | ⟨_, _, _, _, _, ⟨_, h'⟩ | ⟨_, _, ⟨_, h'⟩ | ⟨_, h'⟩ | ⟨_, _, h'⟩⟩⟩ <;>
    rw [h'] at h <;> cases h <;> decide

/-- every outcome of one client datagram; there is no panic case -/
theorem upstream_cases (dnsPort : Nat) (ki : KeyInfo) (st : State) (client : String) (cip : Option Nat) (wire : Nat)
    (opens : List Nat) (plain : List UInt8) :
    let res := upstream dnsPort ki validate resolve st client cip wire opens plain
    -- A: new client, no configured key opens it
    (lookupNat st.nat client = none ∧ (∀ e ∈ st.list, opens.contains e.key = false) ∧ res = (st, [.search false])) ∨
    -- B: new client, authenticated, destination refused / unreadable: nothing but the search report
    (lookupNat st.nat client = none ∧ ∃ list' s, validatePacket validate resolve plain = .ok (.error s) ∧
        res = ({ st with list := list' }, [.search true])) ∨
    -- C: new client, association created
    (lookupNat st.nat client = none ∧ ∃ list' e pl ip port, e ∈ st.list ∧ opens.contains e.key = true ∧
        validatePacket validate resolve plain = .ok (.ok (pl, ip, port)) ∧
        res = ({ st with list := list',
                         nat := ({ client := client, sock := st.nextSock, key := e.key, keyId := e.id,
                                   saltSize := (ki e.key).1, tagSize := (ki e.key).2 } : Assoc).onWrite port dnsPort :: st.nat,
                         nextSock := st.nextSock + 1 },
               [.search true, .natAdd client e.id st.nextSock, .send st.nextSock ip port pl, .report "OK" wire pl.length])) ∨
    -- D: known client, forwarded
    (∃ a, lookupNat st.nat client = some a ∧ opens.contains a.key = true ∧ ∃ pl ip port,
        validatePacket validate resolve plain = .ok (.ok (pl, ip, port)) ∧
        res = ({ st with nat := updateAssoc st.nat client (fun x => x.onWrite port dnsPort) },
               [.search true, .send a.sock ip port pl, .report "OK" wire pl.length])) ∨
    -- E: known client, authenticated, destination refused / unreadable
    (∃ a, lookupNat st.nat client = some a ∧ opens.contains a.key = true ∧ ∃ s,
        validatePacket validate resolve plain = .ok (.error s) ∧ s ≠ "OK" ∧
        res = (st, [.search true, .report s wire 0])) ∨
    -- F: known client, does not open under the association's key
    (∃ a, lookupNat st.nat client = some a ∧ opens.contains a.key = false ∧
        res = (st, [.search false, .report "ERR_CIPHER" wire 0])) := by
  intro res
  -- one copy of `upstream` to unfold and split, not the six of the statement
  have hres : res = upstream dnsPort ki validate resolve st client cip wire opens plain := rfl
  obtain ⟨r, hr⟩ := validatePacket_no_panic validate resolve plain
  unfold upstream at hres
  rw [hr] at hres
  cases hn : lookupNat st.nat client with
  | none =>
    rw [hn] at hres
    rcases CipherList.lookup_cases st.list cip (fun k => opens.contains k) with ⟨e, i, hf, hl⟩ | ⟨hf, hl⟩
    · have hfound := CipherList.findEntry_sound hf
      rw [hl] at hres
      cases r with
      | error s => exact .inr (.inl ⟨rfl, _, s, hr, hres⟩)
      | ok t => exact .inr (.inr (.inl ⟨rfl, _, e, _, _, _, hfound.1, hfound.2, hr, hres⟩))
    · rw [hl] at hres
      exact .inl ⟨rfl, CipherList.findEntry_none_iff.1 hf, hres⟩
  | some a =>
    rw [hn] at hres
    simp only at hres
    by_cases ho : opens.contains a.key = true
    · rw [if_pos ho] at hres
      cases r with
      | error s => exact .inr (.inr (.inr (.inr (.inl ⟨a, rfl, ho, s, hr, validatePacket_error_ne_ok validate resolve hr, hres⟩))))
      | ok t => exact .inr (.inr (.inr (.inl ⟨a, rfl, ho, _, _, _, hr, hres⟩)))
    · rw [if_neg ho] at hres
      exact .inr (.inr (.inr (.inr (.inr ⟨a, rfl, by simpa using ho, hres⟩))))

section
variable (dnsPort bufSize maxAddrLen : Nat) (st : State) (a : Assoc) (srcIP : List UInt8) (srcPort : Nat) (body : List UInt8)

theorem relayReply_cases :
    (∃ p, relayReply bufSize maxAddrLen a srcIP srcPort body = [.panic p]) ∨
    relayReply bufSize maxAddrLen a srcIP srcPort body = [.fromTarget "ERR_PACK" body.length 0] ∨
    ∃ w, relayReply bufSize maxAddrLen a srcIP srcPort body =
      [.toClient a.client a.key (encodeIP srcIP srcPort ++ body) w, .fromTarget "OK" body.length w] := by
  generalize hr : relayReply bufSize maxAddrLen a srcIP srcPort body = r
  unfold relayReply at hr
  simp only at hr
  split at hr
  · exact .inl ⟨_, hr.symm⟩
  · split at hr
    · exact .inl ⟨_, hr.symm⟩
    · split at hr
      · exact .inr (.inl hr.symm)
      · exact .inr (.inr ⟨_, hr.symm⟩)

theorem relayReply_eq
    (hal : (encodeIP srcIP srcPort).length ≤ maxAddrLen) (hfit : a.saltSize + maxAddrLen + body.length ≤ bufSize) :
    relayReply bufSize maxAddrLen a srcIP srcPort body =
      if bufSize < a.saltSize + maxAddrLen + body.length + a.tagSize then [.fromTarget "ERR_PACK" body.length 0]
      else [.toClient a.client a.key (encodeIP srcIP srcPort ++ body) (a.saltSize + (encodeIP srcIP srcPort ++ body).length + a.tagSize),
            .fromTarget "OK" body.length (a.saltSize + (encodeIP srcIP srcPort ++ body).length + a.tagSize)] := by
  unfold relayReply
  simp only [List.length_append]
  rw [if_neg (by omega), if_neg (by omega)]
  by_cases h : bufSize < a.saltSize + maxAddrLen + body.length + a.tagSize
  · rw [if_pos h, if_pos (by omega)]
  · rw [if_neg h, if_neg (by omega)]

theorem downstream_cases :
    downstream dnsPort bufSize maxAddrLen st a srcIP srcPort body = (st, relayReply bufSize maxAddrLen a srcIP srcPort body) ∨
    downstream dnsPort bufSize maxAddrLen st a srcIP srcPort body =
      ({ st with nat := st.nat.filter (fun x => !(x.client == a.client)), closedSocks := a.sock :: st.closedSocks },
       relayReply bufSize maxAddrLen a srcIP srcPort body ++ [.natRemove a.client a.sock]) ∨
    downstream dnsPort bufSize maxAddrLen st a srcIP srcPort body =
      ({ st with nat := updateAssoc st.nat a.client (fun x => { x with armed := false }) },
       relayReply bufSize maxAddrLen a srcIP srcPort body) := by
  unfold downstream
  simp only
  split
  · exact .inl rfl
  · split
    · exact .inr (.inl rfl)
    · exact .inr (.inr rfl)

end

theorem expire_none {st : State} {client : String} (h : lookupNat st.nat client = none) : expire st client = (st, []) := by
  unfold expire; rw [h]

theorem expire_some {st : State} {client : String} {a : Assoc} (h : lookupNat st.nat client = some a) :
    expire st client =
      ({ st with nat := st.nat.filter (fun x => !(x.client == client)), closedSocks := a.sock :: st.closedSocks },
       [.natRemove client a.sock]) := by
  unfold expire; rw [h]

end OutlineModel.UDP
