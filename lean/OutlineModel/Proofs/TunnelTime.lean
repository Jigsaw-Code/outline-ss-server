import OutlineModel.Model.TunnelTime
import OutlineModel.Proofs.ListLemmas
/-!
For C17: the tunnel-time collector (Model/TunnelTime) reports exactly the time during which a client (IPKey) had at
least one tunnel open.

Method: the collector is one small machine per IPKey plus two shared counters.
  * `find_start`, `find_stop`, `find_collect`: what an operation does to the entry of IPKey `k` depends on
    that entry alone, and so does what it reports on behalf of `k` (`reportedAt`);
  * `tracks_run`: the entry of `k` follows the specification `specRun k` (`Tracks`): it exists exactly
    while `depth > 0`, with `count = depth`, and what has been reported for `k` plus what the entry still
    owes is `covered`;
  * `ledger_run`: the counter of an access key is the sum of what has been reported for its IPKeys (this
    is where the active list having one entry per IPKey is needed).
What the operations do is in `start_new` … `stop_more` and `collect_active`; `step t (.stop k now)` is `stop t k now` by
`rfl` (proofs say so with `show`).  The `find_*` lemmas test `k0 = k` with the operation's key first.

Side conditions of `per_key_equals_covered`:
  * `Monotone t0 ops` and `lastTime t0 ops ≤ tEnd`: necessary — see the counterexample in the
    Examples section (clock going back: model 10, specification 15).
  * `ks.Nodup` and `ks` contains every IPKey occurring in a `.start` of `ops` (IPKeys that occur
    only in `.stop`s need not be listed; extra members of `ks` are harmless: they contribute 0).
  * None is needed for `stop`s of inactive IPKeys or for equal timestamps.
-/
namespace OutlineModel.TunnelTime

theorem sum_map_add {α} (l : List α) (f g : α → Nat) :
    (l.map (fun x => f x + g x)).sum = (l.map f).sum + (l.map g).sum := by
  induction l with
  | nil => rfl
  | cons x l ih => simp only [List.map_cons, List.sum_cons, ih, Nat.add_add_add_comm]

theorem sum_map_zero {α} (l : List α) (f : α → Nat) (h : ∀ x ∈ l, f x = 0) :
    (l.map f).sum = 0 :=
  List.sum_eq_zero_iff_forall_eq_nat.2 (List.forall_mem_map.2 h)

theorem sum_map_single {α} [DecidableEq α] (l : List α) (k0 : α) (f : α → Nat) (hnd : l.Nodup)
    (h0 : ∀ k ∈ l, k0 ≠ k → f k = 0) : (l.map f).sum = if k0 ∈ l then f k0 else 0 := by
  induction l with
  | nil => rfl
  | cons x l ih =>
    rw [List.nodup_cons] at hnd
    rw [List.map_cons, List.sum_cons]
    by_cases hx : k0 = x
    · subst hx
      rw [sum_map_zero _ _ fun y hy => h0 y (List.mem_cons_of_mem _ hy) fun e => hnd.1 (e ▸ hy),
        if_pos List.mem_cons_self]
      rfl
    · rw [h0 x List.mem_cons_self hx, ih hnd.2 fun k hk => h0 k (List.mem_cons_of_mem _ hk), Nat.zero_add]
      simp only [List.mem_cons, hx, false_or]

theorem sum_filter_map {α} (l : List α) (p : α → Bool) (f : α → Nat) :
    ((l.filter p).map f).sum = (l.map (fun k => if p k then f k else 0)).sum := by
  induction l with
  | nil => rfl
  | cons x l ih =>
    by_cases hp : p x <;> simp [hp, ih]

@[simp] theorem getOf_nil (a : String) : getOf [] a = 0 := rfl

theorem getOf_cons (k' : String) (v' : Nat) (m : List (String × Nat)) (a : String) :
    getOf ((k', v') :: m) a = if k' = a then v' else getOf m a := by
  unfold getOf
  by_cases h : k' = a
  · rw [List.find?_cons_of_pos (by simpa using h), if_pos h]
  · rw [List.find?_cons_of_neg (by simpa using h), if_neg h]

theorem getOf_addTo (m : List (String × Nat)) (k a : String) (v : Nat) :
    getOf (addTo m k v) a = getOf m a + (if k = a then v else 0) := by
  induction m with
  | nil => rw [addTo, getOf_cons, getOf_nil, Nat.zero_add]
  | cons p m ih =>
    obtain ⟨k', v'⟩ := p
    unfold addTo
    by_cases h : k' = k
    · subst h
      rw [if_pos (beq_self_eq_true _), getOf_cons, getOf_cons]
      by_cases h1 : k' = a
      · rw [if_pos h1, if_pos h1, if_pos h1]
      · rw [if_neg h1, if_neg h1, if_neg h1]; rfl
    · rw [if_neg (by simpa using h), getOf_cons, getOf_cons, ih]
      by_cases h1 : k' = a
      · rw [if_pos h1, if_pos h1, if_neg (h1 ▸ Ne.symm h)]; rfl
      · rw [if_neg h1, if_neg h1]

theorem sumVals_addTo (m : List (String × Nat)) (k : String) (v : Nat) :
    ((addTo m k v).map (·.2)).sum = (m.map (·.2)).sum + v := by
  induction m with
  | nil => simp [addTo]
  | cons p m ih =>
    obtain ⟨k', v'⟩ := p
    unfold addTo
    split
    · simp only [List.map_cons, List.sum_cons]; exact Nat.add_right_comm _ _ _
    · simp only [List.map_cons, List.sum_cons, ih]; exact (Nat.add_assoc _ _ _).symm

section
variable {t : TT} {k : IPKey} {c : Client}

theorem start_new (h : find t k = none) (now : Nat) (loc : String) :
    start t k now loc = { t with active := ⟨k, 1, now, loc⟩ :: t.active } := by
  unfold start; rw [h]

theorem start_more (h : find t k = some c) (now : Nat) (loc : String) :
    start t k now loc =
      { t with active := t.active.map fun c => if c.k == k then { c with count := c.count + 1 } else c } := by
  unfold start; rw [h]

theorem stop_none (h : find t k = none) (now : Nat) : stop t k now = t := by
  unfold stop; rw [h]

theorem stop_last (h : find t k = some c) (hc : c.count - 1 ≤ 0) (now : Nat) :
    stop t k now = { report t c now with active := t.active.filter fun x => !(x.k == k) } := by
  unfold stop; rw [h]; exact if_pos hc

theorem stop_more (h : find t k = some c) (hc : ¬ c.count - 1 ≤ 0) (now : Nat) :
    stop t k now =
      { t with active := t.active.map fun x => if x.k == k then { x with count := x.count - 1 } else x } := by
  unfold stop; rw [h]; exact if_neg hc

end

theorem foldl_report_active (now : Nat) (l : List Client) (t : TT) :
    (l.foldl (fun acc c => report acc c now) t).active = t.active :=
  List.foldlRecOn (motive := fun acc : TT => acc.active = t.active) l _ rfl fun _ h _ _ => h

theorem collect_active (t : TT) (now : Nat) :
    (collect t now).active = t.active.map fun c => { c with start := now } :=
  congrArg (List.map _) (foldl_report_active now t.active t)

def Balanced (t : TT) : Prop := (t.perLoc.map (·.2)).sum = (t.perKey.map (·.2)).sum

theorem bal_report (t : TT) (c : Client) (now : Nat) (h : Balanced t) : Balanced (report t c now) := by
  unfold Balanced at *
  simp only [report, sumVals_addTo, h]

theorem bal_step (t : TT) (o : Op) (h : Balanced t) : Balanced (step t o) := by
  cases o with
  | start k now loc =>
    show Balanced (start t k now loc)
    unfold start
    cases find t k <;> exact h
  | stop k now =>
    show Balanced (stop t k now)
    cases h0 : find t k with
    | none => rw [stop_none h0]; exact h
    | some c =>
      by_cases hc : c.count - 1 ≤ 0
      · rw [stop_last h0 hc]; exact bal_report t c now h
      · rw [stop_more h0 hc]; exact h
  | collect now => exact List.foldlRecOn t.active _ h fun t ht c _ => bal_report t c now ht

theorem bal_run (ops : List Op) : ∀ t, Balanced t → Balanced (run t ops) := by
  induction ops with
  | nil => intro t h; exact h
  | cons o os ih => intro t h; exact ih _ (bal_step t o h)

theorem per_location_equals_per_key (ops : List Op) :
    ((run TT.init ops).perLoc.map (·.2)).sum = ((run TT.init ops).perKey.map (·.2)).sum :=
  bal_run ops TT.init rfl

theorem find?_k_cons (c : Client) (l : List Client) (k : IPKey) :
    (c :: l).find? (·.k == k) = if c.k = k then some c else l.find? (·.k == k) :=
  List.find?_cons_ite (by simp) l

theorem find?_k_mapCount (t : TT) (k0 k : IPKey) (n : Client → Int) :
    (t.active.map fun c => if c.k == k0 then { c with count := n c } else c).find? (·.k == k) =
      if k0 = k then (find t k0).map fun c => { c with count := n c } else find t k :=
  List.find?_mapIf Client.k (fun c => { c with count := n c }) k0 k (fun _ h => h) _

theorem find_start (t : TT) (k0 : IPKey) (now : Nat) (loc : String) (k : IPKey) :
    find (start t k0 now loc) k =
      if k0 = k then
        some (match find t k0 with | some c => { c with count := c.count + 1 } | none => ⟨k0, 1, now, loc⟩)
      else find t k := by
  cases h : find t k0 with
  | none => rw [start_new h]; exact find?_k_cons ..
  | some c => rw [start_more h]; exact (find?_k_mapCount t k0 k _).trans (by rw [h]; rfl)

theorem find_stop (t : TT) (k0 : IPKey) (now : Nat) (k : IPKey) :
    find (stop t k0 now) k =
      if k0 = k then
        (find t k0).bind fun c => if c.count - 1 ≤ 0 then none else some { c with count := c.count - 1 }
      else find t k := by
  cases h : find t k0 with
  | none =>
    rw [stop_none h]
    by_cases hk : k0 = k
    · rw [if_pos hk, ← hk, h]; rfl
    · rw [if_neg hk]
  | some c =>
    by_cases hc : c.count - 1 ≤ 0
    · rw [stop_last h hc, Option.bind_some, if_pos hc]; exact List.find?_filter_key_ne Client.k ..
    · rw [stop_more h hc, Option.bind_some, if_neg hc]; exact (find?_k_mapCount t k0 k _).trans (by rw [h]; rfl)

theorem find_collect (t : TT) (now : Nat) (k : IPKey) :
    find (collect t now) k = (find t k).map fun c => { c with start := now } := by
  rw [find, collect_active]
  exact List.find?_key_map Client.k (fun c => { c with start := now }) (fun _ => rfl) k _

def pending (t : TT) (now : Nat) (k : IPKey) : Nat :=
  match find t k with | some c => now - c.start | none => 0

def reportedAt (k : IPKey) (e : Option Client) : Op → Nat
  | .start _ _ _ => 0
  | .stop k0 now => if k0 = k then
      match e with | some c => if c.count - 1 ≤ 0 then now - c.start else 0 | none => 0 else 0
  | .collect now => match e with | some c => now - c.start | none => 0

/-- `r`: what has been reported for the IPKey so far -/
inductive Tracks : Option Client → Spec → Nat → Prop
  | idle {s r} : s.depth = 0 → r = s.covered → Tracks none s r
  | busy {c s r} : c.count = s.depth → 0 < s.depth → c.start ≤ s.last → r + (s.last - c.start) = s.covered →
      Tracks (some c) s r

theorem Tracks.reported_add_pending {t : TT} {k : IPKey} {s : Spec} {r : Nat} (h : Tracks (find t k) s r) :
    r + pending t s.last k = s.covered := by
  unfold pending
  generalize find t k = e at h
  cases h with
  | idle _ hr => exact hr
  | busy _ _ _ hr => exact hr

theorem Tracks.depth {e : Option Client} {s : Spec} {r : Nat} (h : Tracks e s r) :
    (e = none ↔ s.depth = 0) ∧ ∀ c, e = some c → c.count = (s.depth : Int) := by
  cases h with
  | idle hd _ => exact ⟨⟨fun _ => hd, fun _ => rfl⟩, fun _ h => nomatch h⟩
  | busy h1 h2 _ _ =>
    exact ⟨⟨(fun h => nomatch h), fun hd => absurd h2 (hd ▸ Nat.lt_irrefl 0)⟩, fun c hc => Option.some.inj hc ▸ h1⟩

/-- A step of the specification: time passes (`tick`), then the depth changes (`bumpDepth`). -/
def tick (s : Spec) (n : Nat) : Spec :=
  { depth := s.depth, last := n,
    covered := if s.depth > 0 then s.covered + (n - s.last) else s.covered }

def bumpDepth (k : IPKey) (d : Nat) : Op → Nat
  | .start k' _ _ => if k' = k then d + 1 else d
  | .stop k' _ => if k' = k then d - 1 else d
  | .collect _ => d

theorem specStep_eq (k : IPKey) (s : Spec) (o : Op) :
    specStep k s o = { tick s o.now with depth := bumpDepth k s.depth o } := by
  cases o with
  | start k' n l | stop k' n =>
    -- `specStep` has its `if k' == k` around the record; move it into the `depth` field, where `bumpDepth` has it
    exact (apply_ite (Spec.mk · _ _) ..).symm.trans (by simp only [beq_iff_eq]; rfl)
  | collect n => rfl

theorem Tracks.tick {e : Option Client} {s : Spec} {r : Nat} (h : Tracks e s r)
    {n : Nat} (hn : s.last ≤ n) : Tracks e (tick s n) r := by
  cases h with
  | idle hd hr => exact .idle hd (hr.trans (if_neg (hd ▸ Nat.lt_irrefl 0)).symm)
  | @busy c _ _ h1 h2 h3 hr =>
    refine .busy h1 h2 (Nat.le_trans h3 hn) ?_
    show r + (n - c.start) = if s.depth > 0 then s.covered + (n - s.last) else s.covered
    rw [if_pos h2, ← hr, ← Nat.sub_add_sub_cancel hn h3, Nat.add_comm (n - s.last), Nat.add_assoc]

/-- after `tick`: the operation itself, at the time the specification has reached -/
theorem Tracks.bump (k : IPKey) {t : TT} {s : Spec} {r : Nat} (h : Tracks (find t k) s r)
    (o : Op) (ho : o.now = s.last) :
    Tracks (find (step t o) k) { s with depth := bumpDepth k s.depth o } (r + reportedAt k (find t k) o) := by
  cases o with
  | start k0 n loc =>
    replace ho : n = s.last := ho
    show Tracks (find (start t k0 n loc) k) _ _
    rw [find_start]
    by_cases hk : k0 = k
    · subst hk
      simp only [bumpDepth, reportedAt, ↓reduceIte]
      generalize find t k0 = e at h
      cases h with
      | idle hd hr =>
        exact .busy (by simp [hd]) (Nat.succ_pos _) (Nat.le_of_eq ho) (by rw [ho, Nat.sub_self]; exact hr)
      | busy h1 h2 h3 hr => exact .busy (by simp [h1]) (Nat.succ_pos _) h3 hr
    · simp only [bumpDepth, reportedAt, if_neg hk]; exact h
  | stop k0 n =>
    replace ho : n = s.last := ho
    show Tracks (find (stop t k0 n) k) _ _
    rw [find_stop]
    by_cases hk : k0 = k
    · subst hk
      simp only [bumpDepth, reportedAt, ↓reduceIte]
      generalize find t k0 = e at h
      cases h with
      | idle hd hr => exact .idle (by simp [hd]) hr
      | @busy c _ _ h1 h2 h3 hr =>
        by_cases hc : c.count - 1 ≤ 0
        · simp only [Option.bind_some, if_pos hc]
          exact .idle (by show s.depth - 1 = 0; omega) (by rw [ho]; exact hr)
        · simp only [Option.bind_some, if_neg hc]
          have : c.count - 1 = ((s.depth - 1 : Nat) : Int) ∧ 0 < s.depth - 1 := by omega
          exact .busy this.1 this.2 h3 hr
    · simp only [bumpDepth, reportedAt, if_neg hk]; exact h
  | collect n =>
    replace ho : n = s.last := ho
    show Tracks (find (collect t n) k) _ _
    rw [find_collect]
    generalize find t k = e at h
    cases h with
    | idle hd hr => exact .idle hd hr
    | @busy c _ _ h1 h2 h3 hr =>
      refine .busy h1 h2 (Nat.le_of_eq ho) ?_
      show r + (n - c.start) + (s.last - n) = s.covered
      rw [ho, Nat.sub_self]; exact hr

def reported (t : TT) : List Op → IPKey → Nat
  | [], _ => 0
  | o :: os, k => reportedAt k (find t k) o + reported (step t o) os k

theorem tracks_run (k : IPKey) (ops : List Op) : ∀ (t : TT) (s : Spec) (r : Nat),
    Tracks (find t k) s r → Monotone s.last ops →
      Tracks (find (run t ops) k) (specRun k s ops) (r + reported t ops k) := by
  induction ops with
  | nil => intro t s r h _; exact h
  | cons o os ih =>
    intro t s r h hm
    rw [reported, ← Nat.add_assoc]
    exact ih _ _ _ (specStep_eq k s o ▸ (h.tick hm.1).bump k o rfl) ((specStep_eq k s o).symm ▸ hm.2)

theorem foldl_report_perKey (now : Nat) (a : String) (l : List Client) :
    ∀ t, getOf (l.foldl (fun acc c => report acc c now) t).perKey a =
      getOf t.perKey a + (l.map (fun c => if c.k.key = a then now - c.start else 0)).sum := by
  induction l with
  | nil => intro t; rfl
  | cons c l ih =>
    intro t
    rw [List.foldl_cons, ih, List.map_cons, List.sum_cons, ← Nat.add_assoc]
    simp only [report, getOf_addTo]

def Keyed (ks : List IPKey) (t : TT) : Prop :=
  (t.active.map (·.k)).Nodup ∧ ∀ c ∈ t.active, c.k ∈ ks

/-- summing over the keys what `F` makes of the entry of each key is summing `F` over the entries -/
theorem sum_active_eq (l : List Client) (ks : List IPKey) (F : IPKey → Option Client → Nat)
    (hF : ∀ k, F k none = 0) (hnd : (l.map (·.k)).Nodup) (hks : ks.Nodup) (hin : ∀ c ∈ l, c.k ∈ ks) :
    (ks.map fun k => F k (l.find? (·.k == k))).sum = (l.map fun c => F c.k (some c)).sum := by
  induction l with
  | nil => exact sum_map_zero _ _ (fun k _ => hF k)
  | cons c l ih =>
    rw [List.map_cons, List.nodup_cons] at hnd
    have hnone : l.find? (·.k == c.k) = none := (List.find?_key_eq_none Client.k).2 hnd.1
    have hpt : ∀ k, F k ((c :: l).find? (·.k == k)) =
        F k (l.find? (·.k == k)) + (if c.k = k then F c.k (some c) else 0) := by
      intro k
      rw [find?_k_cons]
      by_cases hk : c.k = k
      · rw [if_pos hk, if_pos hk, ← hk, hnone, hF, Nat.zero_add]
      · rw [if_neg hk, if_neg hk]; rfl
    simp only [hpt]
    rw [sum_map_add, ih hnd.2 fun x hx => hin x (List.mem_cons_of_mem _ hx),
      sum_map_single ks c.k _ hks (fun k _ hk => if_neg hk), if_pos (hin c List.mem_cons_self),
      if_pos rfl, List.map_cons, List.sum_cons, Nat.add_comm]

def startKeys : List Op → List IPKey
  | [] => []
  | .start k _ _ :: os => k :: startKeys os
  | .stop _ _ :: os => startKeys os
  | .collect _ :: os => startKeys os

theorem startKeys_subset_cons (o : Op) (os : List Op) : ∀ k ∈ startKeys os, k ∈ startKeys (o :: os) := by
  cases o with
  | start k0 _ _ => exact fun k hk => List.mem_cons_of_mem k0 hk
  | stop _ _ => exact fun _ hk => hk
  | collect _ => exact fun _ hk => hk

theorem startKeys_append (a b : List Op) : startKeys (a ++ b) = startKeys a ++ startKeys b := by
  induction a with
  | nil => rfl
  | cons o os ih => cases o <;> simp only [List.cons_append, startKeys, ih]

theorem Keyed.of_sublist {ks : List IPKey} {t t' : TT} (h : Keyed ks t)
    (hs : (t'.active.map (·.k)).Sublist (t.active.map (·.k))) : Keyed ks t' :=
  ⟨h.1.sublist hs, fun c hc => by
    obtain ⟨x, hx, hxe⟩ := List.mem_map.1 (hs.subset (List.mem_map_of_mem hc))
    exact hxe ▸ h.2 x hx⟩

theorem keyed_step {ks : List IPKey} {t : TT} (h : Keyed ks t) (o : Op) {os : List Op}
    (hk : ∀ k ∈ startKeys (o :: os), k ∈ ks) : Keyed ks (step t o) := by
  have mapIf (k0 : IPKey) (n : Client → Int) :
      Keyed ks { t with active := t.active.map fun c => if c.k == k0 then { c with count := n c } else c } :=
    h.of_sublist (by
      show ((t.active.map _).map Client.k).Sublist _
      rw [List.map_map_ite Client.k _ (fun c => { c with count := n c }) (fun _ _ => rfl)]
      exact .refl _)
  cases o with
  | start k0 now loc =>
    show Keyed ks (start t k0 now loc)
    cases h0 : find t k0 with
    | some _ => rw [start_more h0]; exact mapIf ..
    | none =>
      rw [start_new h0]
      exact ⟨List.nodup_cons.2 ⟨(List.find?_key_eq_none Client.k).1 h0, h.1⟩, fun c hc => by
        rcases List.mem_cons.1 hc with rfl | hc
        · exact hk _ List.mem_cons_self
        · exact h.2 c hc⟩
  | stop k0 now =>
    show Keyed ks (stop t k0 now)
    cases h0 : find t k0 with
    | none => rw [stop_none h0]; exact h
    | some c0 =>
      by_cases hc : c0.count - 1 ≤ 0
      · rw [stop_last h0 hc]; exact h.of_sublist (List.Sublist.map _ List.filter_sublist)
      · rw [stop_more h0 hc]; exact mapIf ..
  | collect now =>
    exact h.of_sublist (by
      show ((collect t now).active.map _).Sublist _
      rw [collect_active, List.map_map]; exact .refl _)

theorem perKey_step {ks : List IPKey} {t : TT} (h : Keyed ks t) (hks : ks.Nodup) (o : Op) (a : String) :
    getOf (step t o).perKey a =
      getOf t.perKey a + (ks.map fun k => if k.key = a then reportedAt k (find t k) o else 0).sum := by
  cases o with
  | start k0 now loc =>
    rw [sum_map_zero _ _ ?_]
    · show getOf (start t k0 now loc).perKey a = _
      unfold start
      cases find t k0 <;> rfl
    · exact fun k _ => ite_self 0
  | stop k0 now =>
    rw [sum_map_single ks k0 _ hks (fun k _ hk => by simp only [reportedAt, if_neg hk, ite_self])]
    show getOf (stop t k0 now).perKey a = _
    simp only [reportedAt, if_true]
    cases h0 : find t k0 with
    | none => rw [stop_none h0]; simp only [ite_self, Nat.add_zero]
    | some c0 =>
      obtain ⟨hmem, hk0⟩ := List.of_find?_key_eq_some Client.k h0
      rw [if_pos (hk0 ▸ h.2 c0 hmem)]
      by_cases hc : c0.count - 1 ≤ 0
      · rw [stop_last h0 hc]
        simp only [report, getOf_addTo, hk0, if_pos hc]
      · rw [stop_more h0 hc]
        simp only [if_neg hc, ite_self, Nat.add_zero]
  | collect now =>
    exact (foldl_report_perKey now a t.active t).trans (congrArg _
      (sum_active_eq t.active ks (fun k e => if k.key = a then reportedAt k e (.collect now) else 0) (fun k => ite_self 0)
        h.1 hks h.2).symm)

theorem ledger_run {ks : List IPKey} (hks : ks.Nodup) (a : String) (ops : List Op) : ∀ t : TT,
    Keyed ks t → (∀ k ∈ startKeys ops, k ∈ ks) →
      getOf (run t ops).perKey a =
        getOf t.perKey a + ((ks.filter (·.key == a)).map (reported t ops)).sum := by
  induction ops with
  | nil => intro t _ _; exact (congrArg (getOf t.perKey a + ·) (sum_map_zero _ (reported t []) fun _ _ => rfl)).symm
  | cons o os ih =>
    intro t h hk
    have hf := sum_filter_map ks (·.key == a) fun k => reportedAt k (find t k) o
    simp only [beq_iff_eq] at hf
    rw [run, ih _ (keyed_step h o hk) fun k hk' => hk k (startKeys_subset_cons o os k hk'),
      perKey_step h hks, ← hf, Nat.add_assoc, ← sum_map_add]
    rfl

def lastTime (t0 : Nat) : List Op → Nat
  | [] => t0
  | o :: os => lastTime o.now os

theorem run_append (t : TT) (a b : List Op) : run t (a ++ b) = run (run t a) b := by
  induction a generalizing t with
  | nil => rfl
  | cons o os ih => exact ih _

theorem specRun_append (k : IPKey) (s : Spec) (a b : List Op) :
    specRun k s (a ++ b) = specRun k (specRun k s a) b := by
  induction a generalizing s with
  | nil => rfl
  | cons o os ih => exact ih _

theorem lastTime_append (t0 : Nat) (a b : List Op) : lastTime t0 (a ++ b) = lastTime (lastTime t0 a) b := by
  induction a generalizing t0 with
  | nil => rfl
  | cons o os ih => exact ih _

theorem monotone_append (t0 : Nat) (a b : List Op) :
    Monotone t0 (a ++ b) ↔ Monotone t0 a ∧ Monotone (lastTime t0 a) b := by
  induction a generalizing t0 with
  | nil => exact ⟨fun h => ⟨trivial, h⟩, And.right⟩
  | cons o os ih => simp only [List.cons_append, Monotone, lastTime, ih, and_assoc]

theorem lastTime_ge (t0 : Nat) (ops : List Op) (h : Monotone t0 ops) : t0 ≤ lastTime t0 ops := by
  induction ops generalizing t0 with
  | nil => exact Nat.le_refl _
  | cons o os ih => exact Nat.le_trans h.1 (ih _ h.2)

theorem specRun_last (k : IPKey) (s : Spec) (ops : List Op) :
    (specRun k s ops).last = lastTime s.last ops := by
  induction ops generalizing s with
  | nil => rfl
  | cons o os ih => rw [specRun, ih, specStep_eq]; rfl

theorem per_key_reported_plus_pending (t0 : Nat) (ops : List Op) (ks : List IPKey)
    (hmono : Monotone t0 ops) (hks : ks.Nodup) (hall : ∀ k ∈ startKeys ops, k ∈ ks) (a : String) :
    getOf (run TT.init ops).perKey a
        + ((ks.filter (·.key == a)).map (pending (run TT.init ops) (lastTime t0 ops))).sum
      = ((ks.filter (·.key == a)).map
          (fun k => (specRun k ⟨0, t0, 0⟩ ops).covered)).sum := by
  rw [ledger_run hks a ops TT.init ⟨List.nodup_nil, nofun⟩ hall, show getOf TT.init.perKey a = 0 from rfl,
    Nat.zero_add, ← sum_map_add]
  refine congrArg _ (List.map_congr_left fun k _ => ?_)
  have := (tracks_run k ops TT.init ⟨0, t0, 0⟩ 0 (.idle rfl rfl) hmono).reported_add_pending
  rwa [specRun_last, Nat.zero_add] at this

theorem active_iff_depth (t0 : Nat) (ops : List Op) (hmono : Monotone t0 ops) (k : IPKey) :
    (find (run TT.init ops) k = none ↔ (specRun k ⟨0, t0, 0⟩ ops).depth = 0) ∧
    (∀ c, find (run TT.init ops) k = some c → c.count = ((specRun k ⟨0, t0, 0⟩ ops).depth : Int)) :=
  (tracks_run k ops TT.init ⟨0, t0, 0⟩ 0 (.idle rfl rfl) hmono).depth

theorem pending_collect (t : TT) (now : Nat) (k : IPKey) : pending (collect t now) now k = 0 := by
  unfold pending
  rw [find_collect]
  cases find t k with
  | none => rfl
  | some c => exact Nat.sub_self now

theorem per_key_equals_covered' (t0 : Nat) (ops : List Op) (tEnd : Nat) (ks : List IPKey)
    (hmono : Monotone t0 (ops ++ [.collect tEnd]))
    (hks : ks.Nodup) (hall : ∀ k ∈ startKeys ops, k ∈ ks) (a : String) :
    getOf (run TT.init (ops ++ [.collect tEnd])).perKey a
      = ((ks.filter (·.key == a)).map
          (fun k => (specRun k ⟨0, t0, 0⟩ (ops ++ [.collect tEnd])).covered)).sum := by
  have h := per_key_reported_plus_pending t0 (ops ++ [.collect tEnd]) ks hmono hks
    (by rw [startKeys_append]
        exact fun k hk => (List.mem_append.1 hk).elim (hall k) fun h => absurd h List.not_mem_nil) a
  rwa [sum_map_zero _ _ fun k _ => by rw [run_append, lastTime_append]; exact pending_collect _ tEnd k,
    Nat.add_zero] at h

theorem per_key_equals_covered (t0 : Nat) (ops : List Op) (tEnd : Nat) (ks : List IPKey)
    (hmono : Monotone t0 ops) (hEnd : lastTime t0 ops ≤ tEnd)
    (hks : ks.Nodup) (hall : ∀ k ∈ startKeys ops, k ∈ ks) (a : String) :
    getOf (run TT.init (ops ++ [.collect tEnd])).perKey a
      = ((ks.filter (·.key == a)).map
          (fun k => (specRun k ⟨0, t0, 0⟩ (ops ++ [.collect tEnd])).covered)).sum :=
  per_key_equals_covered' t0 ops tEnd ks ((monotone_append t0 ops _).2 ⟨hmono, hEnd, trivial⟩) hks hall a

theorem specRun_no_start (k : IPKey) (ops : List Op) :
    ∀ s : Spec, s.depth = 0 → k ∉ startKeys ops →
      (specRun k s ops).depth = 0 ∧ (specRun k s ops).covered = s.covered := by
  induction ops with
  | nil => intro s hd _; exact ⟨hd, rfl⟩
  | cons o os ih =>
    intro s hd hk
    have hstep : (specStep k s o).depth = 0 ∧ (specStep k s o).covered = s.covered := by
      rw [specStep_eq]
      refine ⟨?_, if_neg (hd ▸ Nat.lt_irrefl 0)⟩
      show bumpDepth k s.depth o = 0
      cases o with
      | start k' n l => exact (if_neg fun e => hk (List.mem_cons.2 (.inl e.symm))).trans hd
      | stop k' n => rw [hd]; exact ite_self 0
      | collect n => exact hd
    have := ih (specStep k s o) hstep.1 fun h => hk (startKeys_subset_cons o os k h)
    exact ⟨this.1, this.2.trans hstep.2⟩

theorem run_no_start (ops : List Op) : ∀ t : TT, t.active = [] → startKeys ops = [] → run t ops = t := by
  induction ops with
  | nil => intro t _ _; rfl
  | cons o os ih =>
    intro t ha hk
    have hstep : step t o = t ∧ startKeys os = [] := by
      cases o with
      | start k n l => cases hk
      | stop k n => exact ⟨stop_none (by unfold find; rw [ha]; rfl) n, hk⟩
      | collect n => obtain ⟨_, _, _⟩ := t; cases ha; exact ⟨rfl, hk⟩
    rw [run, hstep.1]
    exact ih t ha hstep.2

/-- an unauthenticated connection never reaches `startConnection` (prometheus/metrics.go: called by `AddAuthenticated`
    and, for an association, which exists only once authenticated, by `newUDPConnMetrics`): no `start` is seen for it -/
theorem unauthenticated_contributes_zero (t0 : Nat) (ops : List Op) :
    (∀ k, k ∉ startKeys ops → (specRun k ⟨0, t0, 0⟩ ops).covered = 0) ∧
    (startKeys ops = [] → (run TT.init ops).perKey = [] ∧ ∀ a, getOf (run TT.init ops).perKey a = 0) :=
  ⟨fun k hk => (specRun_no_start k ops ⟨0, t0, 0⟩ rfl hk).2, fun h => by
    rw [run_no_start ops TT.init rfl h]; exact ⟨rfl, fun _ => rfl⟩⟩

theorem covered_le_elapsed (k : IPKey) (ops : List Op) :
    ∀ s : Spec, Monotone s.last ops →
      (specRun k s ops).covered ≤ s.covered + (lastTime s.last ops - s.last) := by
  induction ops with
  | nil => intro s _; exact Nat.le_add_right _ _
  | cons o os ih =>
    intro s hm
    show (specRun k (specStep k s o) os).covered ≤ s.covered + (lastTime o.now os - s.last)
    have h2 := ih (specStep k s o)
    rw [specStep_eq] at h2 ⊢
    refine Nat.le_trans (h2 hm.2) ?_
    show (if s.depth > 0 then s.covered + (o.now - s.last) else s.covered) + (lastTime o.now os - o.now) ≤
      s.covered + (lastTime o.now os - s.last)
    rw [← Nat.sub_add_sub_cancel (lastTime_ge o.now os hm.2) hm.1, Nat.add_comm (_ - o.now), ← Nat.add_assoc]
    refine Nat.add_le_add_right ?_ _
    split
    · exact Nat.le_refl _
    · exact Nat.le_add_right _ _

/-- [10,30] ∪ [20,50] counts 40, not 20 + 30 -/
theorem no_double_count_overlap :
    (∀ (k : IPKey) (l : String),
      getOf (run TT.init [.start k 10 l, .start k 20 l, .stop k 30, .stop k 50, .collect 60]).perKey
        k.key = 40) ∧
    (∀ (k : IPKey) (t0 : Nat) (ops : List Op), Monotone t0 ops →
      (specRun k ⟨0, t0, 0⟩ ops).covered ≤ lastTime t0 ops - t0) := by
  constructor
  · intro k l
    have h := per_key_equals_covered 10 [.start k 10 l, .start k 20 l, .stop k 30, .stop k 50] 60 [k]
      (by simp [Monotone, Op.now]) (by simp [lastTime, Op.now]) (by simp) (by simp [startKeys]) k.key
    simp only [List.filter, beq_self_eq_true] at h
    refine h.trans ?_
    show (specRun k _ _).covered + 0 = 40
    simp [specRun, specStep, Op.now]
  · intro k t0 ops hm
    exact Nat.le_trans (covered_le_elapsed k ops ⟨0, t0, 0⟩ hm) (Nat.le_of_eq (Nat.zero_add _))

section Examples

def kA : IPKey := ⟨1, "a"⟩
def kB : IPKey := ⟨2, "a"⟩
def kC : IPKey := ⟨3, "b"⟩

example : getOf (run TT.init
    [.start kA 10 "us", .start kA 20 "us", .stop kA 30, .stop kA 50, .collect 60]).perKey "a" = 40 := by
  decide +kernel

/-- two clients share key "a", with scrapes interleaved, a re-opened tunnel, an ignored extra stop -/
def trace : List Op :=
  [.start kA 10 "us", .start kB 20 "de", .collect 25, .start kA 26 "us", .stop kA 30,
   .start kC 31 "us", .collect 35, .stop kA 40, .stop kB 50, .stop kC 55, .stop kC 56]

example : Monotone 0 trace ∧ lastTime 0 trace ≤ 60 := by
  simp [trace, Monotone, lastTime, Op.now]

example : startKeys trace = [kA, kB, kA, kC] ∧ [kA, kB, kC].Nodup := by decide +kernel

-- the model: kA had a tunnel open during [10,40], kB during [20,50], kC during [31,55]
example : getOf (run TT.init (trace ++ [.collect 60])).perKey "a" = 30 + 30 := by decide +kernel
example : getOf (run TT.init (trace ++ [.collect 60])).perKey "b" = 24 := by decide +kernel
example : getOf (run TT.init (trace ++ [.collect 60])).perLoc "us" = 30 + 24 := by decide +kernel
example : getOf (run TT.init (trace ++ [.collect 60])).perLoc "de" = 30 := by decide +kernel
example : (specRun kA ⟨0, 0, 0⟩ (trace ++ [.collect 60])).covered = 30 := by decide +kernel
example : (specRun kB ⟨0, 0, 0⟩ (trace ++ [.collect 60])).covered = 30 := by decide +kernel
example : (specRun kC ⟨0, 0, 0⟩ (trace ++ [.collect 60])).covered = 24 := by decide +kernel
example : getOf (run TT.init (trace ++ [.collect 60])).perKey "a" = 60 := by
  rw [per_key_equals_covered 0 trace 60 [kA, kB, kC]
    (by simp [trace, Monotone, Op.now]) (by decide +kernel) (by decide +kernel) (by decide +kernel) "a"]
  decide +kernel
-- in the middle of the trace (first scrape at 25): reported 15 + 5, nothing pending
example : getOf (run TT.init (trace.take 3)).perKey "a" = 20 := by decide +kernel
-- between the scrapes (time 31): reported 20, pending 31 - 25 = 6 for kA and kB each,
-- covered 21 + 11 = 20 + 6 + 6   (instance of `per_key_reported_plus_pending`)
example : getOf (run TT.init (trace.take 6)).perKey "a" = 20
    ∧ pending (run TT.init (trace.take 6)) 31 kA = 6 ∧ pending (run TT.init (trace.take 6)) 31 kB = 6
    ∧ (specRun kA ⟨0, 0, 0⟩ (trace.take 6)).covered = 21
    ∧ (specRun kB ⟨0, 0, 0⟩ (trace.take 6)).covered = 11 := by decide +kernel

/-- The clock hypothesis is necessary.  If the clock goes back (start of kC at 5 after start of kA
    at 10), the model reports 20 - 10 = 10 for kA but the specification, which accrues per
    operation with truncated subtraction, says (5 - 10) + (20 - 5) = 15. -/
example :
    getOf (run TT.init [.start kA 10 "us", .start kC 5 "us", .collect 20]).perKey "a" = 10 ∧
    (specRun kA ⟨0, 0, 0⟩ [.start kA 10 "us", .start kC 5 "us", .collect 20]).covered = 15 ∧
    ¬ Monotone 0 [.start kA 10 "us", .start kC 5 "us", .collect 20] := by
  refine ⟨by decide +kernel, by decide +kernel, ?_⟩
  simp [Monotone, Op.now]

/-- A `stop` for an IPKey that is not active is ignored by both sides (this is NOT a counterexample) -/
example : getOf (run TT.init [.stop kA 5, .start kA 10 "us", .stop kA 30, .stop kA 40, .collect 50]).perKey "a" = 20
    ∧ (specRun kA ⟨0, 0, 0⟩ [.stop kA 5, .start kA 10 "us", .stop kA 30, .stop kA 40, .collect 50]).covered = 20 := by
  decide +kernel

end Examples

#print axioms per_key_equals_covered
#print axioms per_key_equals_covered'
#print axioms per_key_reported_plus_pending
#print axioms active_iff_depth
#print axioms per_location_equals_per_key
#print axioms unauthenticated_contributes_zero
#print axioms no_double_count_overlap
#print axioms covered_le_elapsed

end OutlineModel.TunnelTime
