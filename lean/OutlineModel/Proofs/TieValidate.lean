import OutlineModel.Proofs.GoRT
import OutlineModel.Gen.Code
import OutlineModel.Model.Config
import OutlineModel.Proofs.Config
/-
Tie between the translated Config.Validate (cmd/outline-ss-server/config.go) and the model's `validate`
(Model/Config.lean).  net.SplitHostPort and net.ParseIP are parameters.
-/
namespace OutlineModel.Tie.Validate
open OutlineModel OutlineModel.GoRT OutlineModel.Config
open OutlineModel.Gen

section
variable (parseIP : String → List UInt8) (split : String → String × String × Option String)

def ckey (l : Code.ListenerConfig) : String := l.Type_ ++ "/" ++ l.Address

def chk (seen : List String) (l : Code.ListenerConfig) : Option String :=
  if l.Type_ ≠ "tcp" ∧ l.Type_ ≠ "udp" then some "unsupported listener type: %s"
  else if (split l.Address).2.2 ≠ none then some "invalid listener address `%s`: %v"
  else if parseIP (split l.Address).1 = [] then some "address must be IP, found: %s"
  else if ckey l ∈ seen then some "listener of type %s with address %s already exists."
  else none

def addrOK (a : String) : Bool := decide ((split a).2.2 = none) && decide (parseIP (split a).1 ≠ [])

def typeOK (l : Code.ListenerConfig) : Prop := l.Type_ = "tcp" ∨ l.Type_ = "udp"

theorem ite_some_eq_none {α : Type} {c : Prop} [Decidable c] {a : α} {b : Option α} :
    (if c then some a else b) = none ↔ ¬ c ∧ b = none := by
  split <;> simp [*]

theorem chk_eq_none_iff (seen : List String) (l : Code.ListenerConfig) :
    chk parseIP split seen l = none ↔ typeOK l ∧ addrOK parseIP split l.Address = true ∧ ckey l ∉ seen := by
  simp only [chk, ite_some_eq_none, typeOK, addrOK, Bool.and_eq_true, decide_eq_true_eq, ne_eq,
    Decidable.not_and_iff_not_or_not, Decidable.not_not, and_true, and_assoc]

def scan : List String → List Code.ListenerConfig → Option String
  | _, [] => none
  | seen, l :: rest => match chk parseIP split seen l with
    | some e => some e
    | none => scan (ckey l :: seen) rest

/-- one turn of the inner loop as a `loopE` step, on the map Validate keeps; `mk e` is what the function returns for the
    error `e` -/
def step {R : Type} (mk : String → R) (l : Code.ListenerConfig) (m : GoMap String Bool) :
    Except (R × GoMap String Bool) (GoMap String Bool) :=
  match chk parseIP split m.keys l with
  | some e => .error (mk e, m)
  | none => .ok (m.insert (ckey l) true)

theorem loopE_eq_scan {R : Type} (mk : String → R) : ∀ (ls : List Code.ListenerConfig) (m : GoMap String Bool),
    (loopE (step parseIP split mk) ls m).1 = (scan parseIP split m.keys ls).map mk := by
  intro ls
  induction ls with
  | nil => intro m; rfl
  | cons l rest ih =>
    intro m
    simp only [loopE, step, scan]
    cases hc : chk parseIP split m.keys l with
    | some e => rfl
    | none =>
      simp only []  -- the two `match none with` reduce
      rw [ih, GoMap.keys_insert_absent _ _ _ ((chk_eq_none_iff parseIP split _ _).1 hc).2.2]

/-- **Validate**: the translated function never panics and its verdict is the first error of the scan over all listeners of
    all services, in file order (nil when there is none) -/
theorem validate_eq (c : Code.Config) :
    Code.Config.Validate parseIP split c = some (c, scan parseIP split [] (c.Services.flatMap (·.Listeners))) := by
  unfold Code.Config.Validate
  simp only [Option.bind_eq_bind]
  rw [forIn_eq_loopE (fun (svc : Code.ServiceConfig) m =>
      loopE.asStep (loopE (step parseIP split (fun e => (c, some e))) svc.Listeners m)), loopE_flatMap]
  · have h := loopE_eq_scan parseIP split (fun e => (c, some e)) (c.Services.flatMap (·.Listeners)) GoMap.empty
    simp only [GoMap.keys_empty] at h
    simp only [Option.bind_some, h]
    cases scan parseIP split [] (c.Services.flatMap (·.Listeners)) <;> rfl
  · intro svc _ m
    rw [forIn_eq_loopE (step parseIP split (fun e => (c, some e)))]
    · rcases loopE (step parseIP split (fun e => (c, some e))) svc.Listeners m with ⟨_ | r, m'⟩ <;> rfl
    · intro l _ m0
      unfold step chk
      by_cases ht : l.Type_ ≠ "tcp" ∧ l.Type_ ≠ "udp"
      · simp [ht]
      · by_cases hs : (split l.Address).2.2 ≠ none
        · simp [ht, hs]
        · by_cases hp : parseIP (split l.Address).1 = []
          · simp [ht, hs, hp]
          · by_cases hk : l.Type_ ++ "/" ++ l.Address ∈ m0.keys <;> simp [ht, hs, hp, hk, ckey]

theorem scan_none_iff : ∀ (ls : List Code.ListenerConfig) (seen : List String),
    scan parseIP split seen ls = none ↔
      (∀ l ∈ ls, typeOK l ∧ addrOK parseIP split l.Address = true) ∧ (ls.map ckey).Nodup ∧ (∀ l ∈ ls, ckey l ∉ seen) := by
  intro ls
  induction ls with
  | nil => intro seen; simp [scan]
  | cons l rest ih =>
    intro seen
    have hcons : scan parseIP split seen (l :: rest) = none ↔
        chk parseIP split seen l = none ∧ scan parseIP split (ckey l :: seen) rest = none := by
      rw [scan]; cases chk parseIP split seen l <;> simp
    rw [hcons, chk_eq_none_iff, ih]
    simp only [List.forall_mem_cons, List.map_cons, List.nodup_cons, List.mem_map, not_exists, not_and]
    simp only [List.mem_cons, not_or, forall_and]
    exact ⟨fun ⟨⟨a, b, c⟩, d, e, f, g⟩ => ⟨⟨⟨a, b⟩, d⟩, ⟨f, e⟩, c, g⟩,
      fun ⟨⟨⟨a, b⟩, d⟩, ⟨f, e⟩, c, g⟩ => ⟨⟨a, b, c⟩, d, e, f, g⟩⟩

def absL (l : Code.ListenerConfig) : Listener := { tcp := decide (l.Type_ = "tcp"), addr := l.Address }

def absCfg (c : Code.Config) : Cfg :=
  { services := c.Services.map (fun s => { listeners := s.Listeners.map absL, keys := [] }), legacy := [] }

theorem lkey_abs (l : Code.ListenerConfig) (h : typeOK l) : lkey (absL l) = ckey l := by
  have e1 : "tcp" ++ "/" = "tcp/" := by decide
  have e2 : "udp" ++ "/" = "udp/" := by decide
  have ne : ("udp" : String) ≠ "tcp" := by decide
  rcases h with h | h
  · simp [lkey, absL, ckey, h, e1]
  · simp [lkey, absL, ckey, h, e2, ne]

/-- **Validate against the model**: for configurations whose listener types are `tcp` or `udp` (any other type is
    rejected: `unsupported_type_rejected`), the translated Validate accepts exactly what the model's `validate` accepts -/
theorem validate_tie (c : Code.Config)
    (htypes : ∀ l ∈ c.Services.flatMap (·.Listeners), typeOK l) :
    (Code.Config.Validate parseIP split c).map (fun r => r.2.isNone) =
      some (validate (addrOK parseIP split) (absCfg c)) := by
  have hflat : (absCfg c).services.flatMap (·.listeners) = (c.Services.flatMap (·.Listeners)).map absL := by
    simp only [absCfg, List.flatMap_map, List.map_flatMap]
  rw [validate_eq, Option.map_some, Option.some.injEq, Bool.eq_iff_iff, Option.isNone_iff_eq_none, scan_none_iff,
    validate_iff, hflat]
  generalize c.Services.flatMap (·.Listeners) = ls at htypes
  have hkeys : (ls.map absL).map lkey = ls.map ckey := by
    rw [List.map_map]
    exact List.map_congr_left fun l hl => lkey_abs l (htypes l hl)
  rw [hkeys]
  simp only [List.forall_mem_map, List.not_mem_nil, not_false_eq_true, implies_true, and_true]
  exact and_congr_left fun _ => forall₂_congr fun l hl => and_iff_right (htypes l hl)

theorem unsupported_type_rejected (c : Code.Config) (l : Code.ListenerConfig)
    (hl : l ∈ c.Services.flatMap (·.Listeners)) (ht : ¬ typeOK l) :
    ∃ e, Code.Config.Validate parseIP split c = some (c, some e) := by
  rw [validate_eq]
  cases hs : scan parseIP split [] (c.Services.flatMap (·.Listeners)) with
  | some e => exact ⟨e, rfl⟩
  | none => exact absurd (((scan_none_iff parseIP split _ []).1 hs).1 l hl).1 ht

end
end OutlineModel.Tie.Validate
