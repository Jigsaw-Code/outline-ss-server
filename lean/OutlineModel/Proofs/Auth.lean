import OutlineModel.Model.Auth
namespace OutlineModel.Auth
open OutlineModel OutlineModel.CipherList OutlineModel.Replay

variable {st : AuthState} {ip : Option Nat} {valid : Nat → Bool} {srvSalt : Entry → Bool} {hash : Entry → UInt32}

theorem authenticate_short :
    authenticate st ip false valid srvSalt hash = (st, { status := .errCipher, id := "", entry := none }) := rfl

theorem authenticate_none (h : (lookup st.list ip valid).2 = none) :
    authenticate st ip true valid srvSalt hash =
      ({ st with list := (lookup st.list ip valid).1 }, { status := .errCipher, id := "", entry := none }) := by
  simp only [authenticate, Bool.not_true, Bool.false_eq_true, if_false, h]

theorem authenticate_some {e : Entry} {i : Nat} (h : (lookup st.list ip valid).2 = some (e, i)) :
    authenticate st ip true valid srvSalt hash =
      ({ list := (lookup st.list ip valid).1,
         cache := if srvSalt e then st.cache else (addNilable st.cache (hash e)).1 },
       { status := if srvSalt e then .errReplayServer
                   else if (addNilable st.cache (hash e)).2 then .ok else .errReplayClient,
         id := e.id, entry := some (e, i) }) := by
  simp only [authenticate, Bool.not_true, Bool.false_eq_true, if_false, h]
  cases srvSalt e <;> cases (addNilable st.cache (hash e)).2 <;> rfl

end OutlineModel.Auth
