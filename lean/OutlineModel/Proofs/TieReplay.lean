import OutlineModel.Proofs.GoRT
import OutlineModel.Gen.Code
import OutlineModel.Model.Replay
import OutlineModel.Proofs.Replay
/-
Tie between the translated service/replay.go and the model Model/Replay.lean.  The translated cache holds two `GoMap`s,
the model two lists; `abs` takes the key lists.  The equations below are equalities of lists, not of sets: they hold
because the prelude's `insert` puts a new key in front (`GoMap.keys_insert_absent`), which is the model's `h :: active`.
-/
namespace OutlineModel.Tie.Replay
open OutlineModel OutlineModel.GoRT OutlineModel.Replay
open OutlineModel.Gen

def abs (c : Code.ReplayCache) : RC := { cap := c.capacity, active := c.active.keys, archive := c.archive.keys }

/-- `ReplayCache.Add` after the checksum has been computed: the translated code does what the model does,
    and never panics. -/
theorem add_tie (c : Code.ReplayCache) (id salt : List UInt8) (h : UInt32) (hp : Code.preHash id salt = some h) :
    (Code.ReplayCache.Add c id salt).map (fun p => (abs p.1, p.2)) = some ((abs c).add h) := by
  unfold Code.ReplayCache.Add RC.add
  simp only [hp, abs]
  by_cases h0 : c.capacity = 0
  · simp [h0]
  · by_cases h1 : h ∈ c.active.keys
    · simp [h0, h1]
    · -- rotate or insert: either way the answer is whether the archive has `h`
      -- (what is left reads `decide (h ∈ c.archive.keys) = decide (h ∈ c.archive.keys)`: two `Decidable` instances)
      by_cases h2 : (c.active.keys.length : Int) ≥ c.capacity <;> simp [h0, h1, h2, GoMap.keys_insert_absent] <;>
        exact decide_eq_decide.mpr Iff.rfl

/-- `ReplayCache.Resize`: refusal is an error value, acceptance only sets the capacity (20000 is `MaxCapacity`, which the
    translator inlines) -/
theorem resize_tie (c : Code.ReplayCache) (n : Int) :
    (Code.ReplayCache.Resize c n).map (fun p => (abs p.1, p.2.isNone)) = some ((abs c).resize 20000 n) := by
  unfold Code.ReplayCache.Resize RC.resize
  by_cases h : n > 20000 <;> simp [h, abs]

/-- `NewReplayCache`: panics (none) above MaxCapacity, otherwise an empty cache of that capacity -/
theorem new_tie (n : Int) : (Code.NewReplayCache n).map abs = RC.new 20000 n := by
  unfold Code.NewReplayCache RC.new
  by_cases h : n > 20000 <;> simp [h, abs, Code.ReplayCache.zero]

-- `buf`, the 4-byte array of `preHash`, from the model's four lanes
def toL (L : UInt8 × UInt8 × UInt8 × UInt8) : List UInt8 := [L.1, L.2.1, L.2.2.1, L.2.2.2]

theorem foldLanes_cons (L : UInt8 × UInt8 × UInt8 × UInt8) (b : UInt8) (rest : List UInt8) (i : Nat) :
    foldLanes L (b :: rest) i = foldLanes (foldLanes L [b] i) rest (i + 1) := by
  obtain ⟨l0, l1, l2, l3⟩ := L
  rfl

/-- `buf[i&0x3] ^= v` -/
theorem lane_step (L : UInt8 × UInt8 × UInt8 × UInt8) (k : Nat) (v : UInt8) :
    (do let a ← idx (toL L) (iand (k : Int) 3)
        let r ← GoRT.set (toL L) (iand (k : Int) 3) (a ^^^ v)
        pure (ForInStep.yield r)) = some (ForInStep.yield (toL (foldLanes L [v] k))) := by
  obtain ⟨l0, l1, l2, l3⟩ := L
  have h3 : (3 : Int) = ((3 : Nat) : Int) := rfl
  rw [h3, iand_ofNat, show k &&& 3 = k % 4 from Nat.and_two_pow_sub_one_eq_mod k 2, idx_ofNat]
  simp only [foldLanes]
  have hk : k % 4 < 4 := Nat.mod_lt _ (by decide)
  generalize k % 4 = m at hk
  match m, hk with
  | 0, _ | 1, _ | 2, _ | 3, _ => rfl

/-- a loop over (index, byte) pairs from index `i0` on, for ANY body that satisfies the step equation `hbody` (`simp`
    proves it for the generated body from `lane_step`, whatever the shape of that body) -/
theorem lanes_loop (body : Int × UInt8 → List UInt8 → Option (ForInStep (List UInt8)))
    (hbody : ∀ (k : Nat) (v : UInt8) L, body ((k : Int), v) (toL L) = some (ForInStep.yield (toL (foldLanes L [v] k))))
    (bs : List UInt8) : ∀ (L : UInt8 × UInt8 × UInt8 × UInt8) (i0 : Nat),
    forIn ((bs.zipIdx i0).map (fun p => (((p.2 : Nat) : Int), p.1))) (toL L) body = some (toL (foldLanes L bs i0)) := by
  induction bs with
  | nil => intro L i0; rfl
  | cons b rest ih =>
    intro L i0
    rw [foldLanes_cons]
    simp only [List.zipIdx_cons, List.map_cons, List.forIn_cons, hbody, Option.bind_eq_bind, Option.bind_some]
    exact ih _ _

/-- the loop over `id` in index form, `for i := 0; i < len(id); i++` reading `id[i]` (never out of range);
    `Code.preHash` has it in range form, so `preHash_tie` does not use this -/
theorem loop1_tie (id : List UInt8) : ∀ (n s : Nat) (L : UInt8 × UInt8 × UInt8 × UInt8), s + n = id.length →
    forIn ((List.range' s n).map (fun (k : Nat) => (0 : Int) + (k : Int))) (toL L)
      (fun (i : Int) (b : List UInt8) => do
          let a ← idx b (iand i 3)
          let c ← idx id i
          let r ← GoRT.set b (iand i 3) (a ^^^ c)
          pure (ForInStep.yield r))
      = some (toL (foldLanes L (id.drop s) s)) := by
  intro n
  induction n with
  | zero =>
    intro s L h
    rw [List.drop_eq_nil_of_le (by omega)]
    rfl
  | succ n ih =>
    intro s L h
    have hlt : s < id.length := by omega
    have hs := lane_step L s id[s]
    simp only [Option.bind_eq_bind] at hs
    rw [List.drop_eq_getElem_cons hlt, foldLanes_cons]
    simp only [List.range'_succ, List.map_cons, List.forIn_cons, Int.zero_add, Option.bind_eq_bind, idx_ofNat id,
      List.getElem?_eq_getElem hlt, Option.bind_some, hs]
    simpa [Int.zero_add] using ih (s + 1) (foldLanes L [id[s]] s) (by omega)

/-- **preHash**: the translated function never panics and computes the model's checksum (both loops are in the
    canonical range form: the translator turns `for i := 0; i < len(id); i++ { … id[i] … }` into it) -/
theorem preHash_tie (id salt : List UInt8) : Code.preHash id salt = some (Replay.preHash id salt) := by
  unfold Code.preHash Replay.preHash
  simp only [show List.replicate 4 (0 : UInt8) = toL (0, 0, 0, 0) from rfl, Option.bind_eq_bind, enum]
  rw [lanes_loop _ ?_ id, Option.bind_some, lanes_loop _ ?_ salt, Option.bind_some]
  · obtain ⟨l0, l1, l2, l3⟩ := foldLanes (foldLanes (0, 0, 0, 0) id) salt
    rfl
  all_goals
    intro k v L
    simpa using lane_step L k v

/-- **Add** never panics; its answer is the model's `add` on the checksum, and so is the cache it leaves, seen through `abs` -/
theorem add_eq (c : Code.ReplayCache) (id salt : List UInt8) :
    ∃ c', Code.ReplayCache.Add c id salt = some (c', ((abs c).add (Replay.preHash id salt)).2) ∧
      abs c' = ((abs c).add (Replay.preHash id salt)).1 := by
  obtain ⟨q, hA, h⟩ := Option.map_eq_some_iff.1 (add_tie c id salt _ (preHash_tie id salt))
  exact ⟨q.1, by rw [hA, ← h], by rw [← h]⟩

theorem capsGE_map_add (N : Nat) (l : List (List UInt8 × List UInt8)) :
    capsGE N (l.map fun p => Op.add (Replay.preHash p.1 p.2)) := by
  induction l with
  | nil => trivial
  | cons _ _ ih => simpa [capsGE] using ih

theorem numAdds_map_add (l : List (List UInt8 × List UInt8)) :
    numAdds (l.map fun p => Op.add (Replay.preHash p.1 p.2)) = l.length := by
  induction l with
  | nil => rfl
  | cons _ _ ih => simp [numAdds, ih]

end OutlineModel.Tie.Replay
