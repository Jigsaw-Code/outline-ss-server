/-
Facts about core lists that core does not provide and that several models need.

Two of the models keep a table as a list with a key projection `κ` and look an entry up with
`find? (κ · == k)`, update it with `map (fun x => if κ x == k then g x else x)` and remove it with
`filter (fun x => !(κ x == k))` (the active clients of the tunnel-time collector by IP key, the NAT table
by client address); the cipher list looks an element up and takes it out the same way, by element identity.
The lemmas of `section keyed` are about that shape, for any `κ`.
-/
namespace List

theorem eq_of_nodup_map {α β : Type _} (f : α → β) {l : List α} (h : (l.map f).Nodup) {x y : α}
    (hx : x ∈ l) (hy : y ∈ l) (hxy : f x = f y) : x = y := by
  induction l with
  | nil => cases hx
  | cons z zs ih =>
    obtain ⟨hz, hzs⟩ := nodup_cons.1 h
    rcases mem_cons.1 hx with rfl | hx' <;> rcases mem_cons.1 hy with rfl | hy'
    · rfl
    · exact absurd (hxy ▸ mem_map_of_mem hy') hz
    · exact absurd (hxy ▸ mem_map_of_mem hx') hz
    · exact ih hzs hx' hy'

theorem find?_cons_ite {α : Type _} {p : α → Bool} {P : Prop} [Decidable P] {a : α} (h : p a = true ↔ P)
    (l : List α) : (a :: l).find? p = if P then some a else l.find? p := by
  rw [List.find?_cons]
  by_cases hP : P
  · rw [if_pos hP, h.2 hP]
  · rw [if_neg hP, Bool.eq_false_iff.2 (mt h.1 hP)]

section keyed
variable {α K : Type _} [BEq K] (κ : α → K)

theorem map_map_ite {α β : Type _} (f : α → β) (p : α → Prop) [DecidablePred p] (g : α → α)
    (hg : ∀ x, p x → f (g x) = f x) (l : List α) : (l.map fun x => if p x then g x else x).map f = l.map f := by
  rw [map_map]
  apply map_congr_left
  intro x _
  simp only [Function.comp]
  split
  · next h => exact hg x h
  · rfl

theorem find?_key_map (F : α → α) (hF : ∀ x, κ (F x) = κ x) (k : K) (l : List α) :
    (l.map F).find? (fun x => κ x == k) = (l.find? fun x => κ x == k).map F := by
  rw [find?_map]
  have : ((fun x => κ x == k) ∘ F) = fun x => κ x == k := funext fun x => by simp [hF]
  rw [this]

variable [LawfulBEq K]

theorem of_find?_key_eq_some {k : K} {a : α} {l : List α} (h : l.find? (fun x => κ x == k) = some a) : a ∈ l ∧ κ a = k :=
  ⟨mem_of_find?_eq_some h, by simpa using find?_some h⟩

theorem find?_key_eq_none {k : K} {l : List α} : l.find? (fun x => κ x == k) = none ↔ k ∉ l.map κ := by
  simp only [find?_eq_none, beq_iff_eq, mem_map, not_exists, not_and]

theorem find?_mapIf [DecidableEq K] (g : α → α) (k k' : K) (hg : ∀ x, κ x = k → κ (g x) = k) (l : List α) :
    (l.map fun x => if κ x == k then g x else x).find? (fun x => κ x == k') =
      if k = k' then (l.find? fun x => κ x == k).map g else l.find? fun x => κ x == k' := by
  -- the entry found has key `k'`, so whether it is changed is whether `k = k'`
  rw [find?_key_map κ _ (fun x => by split <;> simp_all),
    Option.map_congr (g := fun x => if k = k' then g x else x) fun e he => by
      rw [(of_find?_key_eq_some κ he).2]; simp only [beq_iff_eq, eq_comm (a := k)]]
  split
  · next h => rw [h]
  · exact Option.map_id'

theorem find?_filter_key_ne [DecidableEq K] (k k' : K) (l : List α) :
    (l.filter fun x => !(κ x == k)).find? (fun x => κ x == k') =
      if k = k' then none else l.find? fun x => κ x == k' := by
  rw [find?_filter]
  split
  · next h =>
    subst h
    exact find?_eq_none.2 fun x _ => by simp
  · next h =>
    congr 1
    funext x
    by_cases hx : κ x = k' <;> simp [hx, Ne.symm h]

theorem filter_key_ne_eq_self {k : K} {l : List α} (h : k ∉ l.map κ) : (l.filter fun x => !(κ x == k)) = l := by
  rw [filter_eq_self]
  intro x hx
  have : κ x ≠ k := fun e => h (e ▸ mem_map_of_mem hx)
  simpa using this

theorem length_filter_key_ne {a : α} {l : List α} (hnd : (l.map κ).Nodup) (ha : a ∈ l) :
    (l.filter fun x => !(κ x == κ a)).length + 1 = l.length := by
  induction l with
  | nil => cases ha
  | cons x xs ih =>
    obtain ⟨hx, hxs⟩ := nodup_cons.1 hnd
    rcases mem_cons.1 ha with rfl | ha'
    · rw [filter_cons_of_neg (by simp), filter_key_ne_eq_self κ hx, length_cons]
    · have hne : κ x ≠ κ a := fun e => hx (e ▸ mem_map_of_mem ha')
      rw [filter_cons_of_pos (by simpa using hne), length_cons, ih hxs ha', length_cons]

end keyed

end List
