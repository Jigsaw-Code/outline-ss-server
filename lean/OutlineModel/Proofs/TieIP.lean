import OutlineModel.Proofs.GoRT
import OutlineModel.Gen.Code
import OutlineModel.Model.IP
import OutlineModel.Model.IPInfo
/-
Tie between the translated net/private_net.go (IsPrivateAddress, RequirePublicIP) and ipinfo/ipinfo.go
(GetIPInfoFromIP, GetIPInfoFromAddr) and the models Model/IP.lean and Model/IPInfo.lean.  The net.IP predicates
themselves (IsGlobalUnicast, IPNet.Contains) are not translated: they are Go's standard library, modelled in
Model/IP.lean and validated by the `ip` campaign.
-/
namespace OutlineModel.Tie.IP
open OutlineModel OutlineModel.GoRT OutlineModel.IP
open OutlineModel.Gen

theorem enum_map_snd {α : Type} (l : List α) : (GoRT.enum l).map (·.2) = l := GoRT.enum_map_snd l

/-- **IsPrivateAddress** is the model's `isPrivate` over the generated CIDR table; it never panics -/
theorem isPrivate_tie (ip : List UInt8) : Code.IsPrivateAddress ip = some (isPrivate Gen.privateNets ip) := by
  unfold Code.IsPrivateAddress isPrivate
  simp only [Option.bind_eq_bind]
  -- the loop is a search, whether written `for _, n := range nets` or as an index loop (which the translator turns
  -- into a range over (index, element) pairs)
  first
    | rw [forIn_eq_loopE (fun n (s : Unit) => if contains n ip then .error (true, s) else .ok s)]
    | rw [forIn_enum_eq_loopE (fun n (s : Unit) => if contains n ip then .error (true, s) else .ok s)]
  · rw [loopE_find]
    cases h : Gen.privateNets.find? (fun n => contains n ip) with
    | none => simp [List.any_eq_false.2 (List.find?_eq_none.1 h)]
    | some n => simp [List.any_eq_true.2 ⟨n, List.mem_of_find?_eq_some h, List.find?_some h⟩]
  · intros
    split <;> simp_all  -- `simp_all`: the code may test the negation and fall through

def verdictOf : Option String → Option Verdict
  | none => some .ok
  | some "ERR_ADDRESS_INVALID" => some .invalid
  | some "ERR_ADDRESS_PRIVATE" => some .priv
  | some _ => none

theorem requirePublicIP_code (ip : List UInt8) :
    Code.RequirePublicIP ip = some (match requirePublicIP Gen.privateNets ip with
      | .ok => none | .invalid => some "ERR_ADDRESS_INVALID" | .priv => some "ERR_ADDRESS_PRIVATE") := by
  unfold Code.RequirePublicIP requirePublicIP
  simp only [isPrivate_tie]
  cases isGlobalUnicast ip <;> cases isPrivate Gen.privateNets ip <;> rfl

/-- **RequirePublicIP** returns exactly the model's verdict (nil error = ok), for every byte string -/
theorem requirePublicIP_tie (ip : List UInt8) :
    (Code.RequirePublicIP ip).bind verdictOf = some (requirePublicIP Gen.privateNets ip) := by
  rw [requirePublicIP_code]
  cases requirePublicIP Gen.privateNets ip <;> simp [verdictOf]

theorem requirePublicIP_nil_iff (ip : List UInt8) :
    Code.RequirePublicIP ip = some none ↔ requirePublicIP Gen.privateNets ip = .ok := by
  rw [requirePublicIP_code]
  cases requirePublicIP Gen.privateNets ip <;> simp

def dbOf (get : Opaque "ipinfo.IPInfoMap" → List UInt8 → Code.IPInfo × Option String) (ip2info : Opaque "ipinfo.IPInfoMap")
    (ip : List UInt8) : IPInfo.DB :=
  if ip2info = ⟨0⟩ then .disabled
  else match (get ip2info ip).2 with
    | none => .answers (get ip2info ip).1.CountryCode
    | some _ => .fails (get ip2info ip).1.CountryCode

/-- **GetIPInfoFromIP**: the location label and the error flag are the model's, for every database
    behaviour and every byte string; the function never panics -/
theorem getIPInfoFromIP_tie (get : Opaque "ipinfo.IPInfoMap" → List UInt8 → Code.IPInfo × Option String)
    (ip2info : Opaque "ipinfo.IPInfoMap") (ip : List UInt8) :
    (Code.GetIPInfoFromIP get ip2info ip).map (fun r => (r.1.CountryCode, r.2.isSome)) =
      some ((IPInfo.fromIP (dbOf get ip2info ip) ip).label, (IPInfo.fromIP (dbOf get ip2info ip) ip).isErr) := by
  unfold Code.GetIPInfoFromIP dbOf IPInfo.fromIP
  by_cases h0 : ip2info = ⟨0⟩
  · simp [h0, Code.IPInfo.zero]
  · by_cases h1 : ip = []
    · cases (get ip2info ip).2 <;> simp [h0, h1, Code.IPInfo.zero]
    · cases hgu : isGlobalUnicast ip
      · cases (get ip2info ip).2 <;> simp [h0, h1, hgu, Code.IPInfo.zero]
      · cases hg : (get ip2info ip).2
        · by_cases hc : (get ip2info ip).1.CountryCode = "" <;> simp [h0, h1, hg, hgu, hc]
        · simp [h0, h1, hg, hgu]

section
variable (str : Opaque "net.Addr" → String) (get : Opaque "ipinfo.IPInfoMap" → List UInt8 → Code.IPInfo × Option String)
  (idx : String → UInt8 → Int) (parseIP : String → List UInt8) (split : String → String × String × Option String)

/-- the host with the zone of a scoped IPv6 address dropped: `hostname[:strings.IndexByte(hostname, '%')]` (37 is '%') -/
def hostOf (h : String) : String :=
  if idx h 37 ≥ 0 then (GoRT.strSlice h 0 (idx h 37)).getD h else h

def parsedOf (addr : Opaque "net.Addr") : IPInfo.Parsed :=
  if addr = ⟨0⟩ then .nilAddr
  else if (split (str addr)).2.2 ≠ none then .noHostPort
  else if parseIP (hostOf idx (split (str addr)).1) = [] then .notIP
  else .ip (parseIP (hostOf idx (split (str addr)).1))

/-- **GetIPInfoFromAddr**: as long as `IndexByte` answers an offset inside the string, the translated function never panics
    and the label and error flag are the model's `fromAddr` of the parse outcome: XA for a nil address, a host:port that
    does not split, or a host that is no IP literal (after dropping an IPv6 zone); otherwise the class of the IP -/
theorem getIPInfoFromAddr_tie (ip2info : Opaque "ipinfo.IPInfoMap") (addr : Opaque "net.Addr")
    (hidx : ∀ h, idx h 37 ≤ GoRT.strLen h) :
    (Code.GetIPInfoFromAddr str get idx parseIP split ip2info addr).map (fun r => (r.1.CountryCode, r.2.isSome)) =
      some ((IPInfo.fromAddr (dbOf get ip2info (parseIP (hostOf idx (split (str addr)).1))) (parsedOf str idx parseIP split addr)).label,
            (IPInfo.fromAddr (dbOf get ip2info (parseIP (hostOf idx (split (str addr)).1))) (parsedOf str idx parseIP split addr)).isErr) := by
  unfold Code.GetIPInfoFromAddr parsedOf
  by_cases h0 : addr = ⟨0⟩
  · simp [h0, IPInfo.fromAddr, Code.IPInfo.zero]
  · by_cases h1 : (split (str addr)).2.2 ≠ none
    · simp [h0, h1, IPInfo.fromAddr, Code.IPInfo.zero]
    · simp only [h0, h1, decide_false, Bool.false_eq_true, if_false]
      generalize (split (str addr)).1 = H
      -- the host name that is parsed is `hostOf idx H`, whether or not there is a zone to cut off; from there on:
      -- XA for no IP literal, otherwise the class of the IP
      by_cases hi : idx H 37 ≥ 0
      · have hb : ¬ ((0 : Int) < 0 ∨ idx H 37 < 0 ∨ GoRT.strLen H < idx H 37) := by
          have := hidx H; omega
        have hs : GoRT.strSlice H 0 (idx H 37) = some (hostOf idx H) := by
          simp only [hostOf, hi, if_true, GoRT.strSlice, hb, if_false, Option.getD_some]
        simp only [hi, decide_true, if_true, hs, Option.bind_eq_bind, Option.bind_some]
        by_cases hp : parseIP (hostOf idx H) = []
        · simp [hp, IPInfo.fromAddr, Code.IPInfo.zero]
        · simp only [hp, decide_false, Bool.false_eq_true, if_false, IPInfo.fromAddr]
          exact getIPInfoFromIP_tie get ip2info _
      · rw [show hostOf idx H = H by simp [hostOf, hi]]
        simp only [hi, decide_false, Bool.false_eq_true, if_false]
        by_cases hp : parseIP H = []
        · simp [hp, IPInfo.fromAddr, Code.IPInfo.zero]
        · simp only [hp, decide_false, Bool.false_eq_true, if_false, IPInfo.fromAddr]
          exact getIPInfoFromIP_tie get ip2info _
end

end OutlineModel.Tie.IP
